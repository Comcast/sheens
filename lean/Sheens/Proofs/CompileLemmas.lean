import Sheens.Compile

/-!
# Lemmas about the `Compile` model (for property C13)

* generic facts about the hand-written traversal `mapM'`;
* the local closures of `parsePatterns` / `compile` as top-level functions (`ppBranch`, `ppNode`,
  `cBranch`, `cNode`, `compileCore`), with `rfl` unfolding lemmas;
* compiling the dump of a compiled spec gives it back, level by level (`cBranch_idem`, `cNode_idem`,
  `compileCore_idem`, `compile_idem`);
* rejections: a `Bad` node survives `ppNode` and fails in `cNode`; an unknown syntax fails in `ppNode`.
-/

namespace Compile

section MapM
variable {α β γ ε : Type}

theorem mapM'_nil (f : α → Except ε β) : mapM' f [] = .ok [] := rfl

theorem mapM'_cons (f : α → Except ε β) (x : α) (xs : List α) :
    mapM' f (x :: xs) =
      match f x with
      | .error e => .error e
      | .ok y => match mapM' f xs with
        | .error e => .error e
        | .ok ys => .ok (y :: ys) := rfl

/-- two lists related element by element (core Lean has no `List.Forall₂`) -/
inductive Forall2 (R : α → β → Prop) : List α → List β → Prop
  | nil : Forall2 R [] []
  | cons {a b l₁ l₂} : R a b → Forall2 R l₁ l₂ → Forall2 R (a :: l₁) (b :: l₂)

theorem mapM'_ok_iff {f : α → Except ε β} {l : List α} {ys : List β} :
    mapM' f l = .ok ys ↔ Forall2 (fun x y => f x = .ok y) l ys := by
  induction l generalizing ys with
  | nil =>
    rw [mapM'_nil]
    constructor
    · intro h; cases h; exact .nil
    · intro h; cases h; rfl
  | cons a as ih =>
    rw [mapM'_cons]
    constructor
    · intro h
      split at h
      · cases h
      · next y hfa =>
        split at h <;> cases h
        next ys' hr => exact .cons hfa (ih.mp hr)
    · intro h
      cases h with
      | cons h1 h2 => rw [h1, ih.mpr h2]

variable {f : α → Except ε β} {l : List α} {ys : List β}

theorem mapM'_ok_mem {x : α}
    (h : mapM' f l = .ok ys) (hx : x ∈ l) : ∃ y, y ∈ ys ∧ f x = .ok y := by
  replace h := mapM'_ok_iff.mp h
  induction h with
  | nil => cases hx
  | cons h1 _ ih =>
    rcases List.mem_cons.mp hx with rfl | hx'
    · exact ⟨_, List.mem_cons_self, h1⟩
    · obtain ⟨y, hy, hr⟩ := ih hx'
      exact ⟨y, List.mem_cons_of_mem _ hy, hr⟩

/-- an element that maps to an error makes the traversal fail (maybe with an earlier error) -/
theorem mapM'_error_of_mem {x : α} {e : ε}
    (hx : x ∈ l) (h : f x = .error e) : ∃ e', mapM' f l = .error e' := by
  cases hm : mapM' f l with
  | error e' => exact ⟨e', rfl⟩
  | ok ys =>
    obtain ⟨y, _, hy⟩ := mapM'_ok_mem hm hx
    rw [h] at hy
    cases hy

theorem mapM'_congr {g : α → Except ε β} (h : ∀ x, x ∈ l → f x = g x) :
    mapM' f l = mapM' g l := by
  induction l with
  | nil => rfl
  | cons a as ih =>
    rw [mapM'_cons, mapM'_cons, h a List.mem_cons_self,
      ih (fun x hx => h x (List.mem_cons_of_mem _ hx))]

theorem mapM'_map (f : β → Except ε γ) (h : α → β) (l : List α) :
    mapM' f (l.map h) = mapM' (fun x => f (h x)) l := by
  induction l with
  | nil => rfl
  | cons a as ih => rw [List.map_cons, mapM'_cons, mapM'_cons, ih]

theorem mapM'_ok_self {f : α → Except ε α} {l : List α} (h : ∀ x, x ∈ l → f x = .ok x) :
    mapM' f l = .ok l := by
  induction l with
  | nil => rfl
  | cons a as ih =>
    rw [mapM'_cons, h a List.mem_cons_self, ih (fun x hx => h x (List.mem_cons_of_mem _ hx))]

/-- a successful traversal, undone element by element: `g ∘ h` gives back every output of `f` -/
theorem mapM'_retract {δ : Type} {g : δ → Except ε β} {h : β → δ} (hm : mapM' f l = .ok ys)
    (hg : ∀ x y, y ∈ ys → f x = .ok y → g (h y) = .ok y) :
    mapM' g (ys.map h) = .ok ys := by
  replace hm := mapM'_ok_iff.mp hm
  induction hm with
  | nil => rfl
  | cons h1 _ ih =>
    rw [List.map_cons, mapM'_cons, hg _ _ List.mem_cons_self h1,
      ih fun x y hy => hg x y (List.mem_cons_of_mem _ hy)]

end MapM

variable {c : Codec} {known : String → Bool} {srcOk : Source → Bool} {syn : String}

/-! ## the closures of `parsePatterns` and `compile`, named -/

def ppBranch (c : Codec) (syn : String) (b : Option RawBranch) : Except CompileErr (Option RawBranch) :=
  match b with
  | none => Except.ok none
  | some b => match parseAndCanon c syn b.pattern with
    | .error e => .error e
    | .ok p => .ok (some { b with pattern := p })

def ppNode (c : Codec) (syn : String) (p : String × Option RawNode) :
    Except CompileErr (String × Option RawNode) :=
  match p.2 with
  | none => Except.ok p
  | some n =>
    match n.branching with
    | none => .ok p
    | some br => match mapM' (ppBranch c syn) br.branches with
      | .error e => .error e
      | .ok bs => .ok (p.1, some { n with branching := some { br with branches := bs } })

theorem parsePatterns_eq (c : Codec) (s : RawSpec) :
    parsePatterns c s =
      match s.nodes with
      | none => .ok s
      | some nodes =>
        match mapM' (ppNode c s.patternSyntax) nodes with
        | .error e => .error e
        | .ok ns => .ok { s with nodes := some ns, patternSyntax := "" } := by
  -- unfolded first: a bare `rfl` leaves the order of unfolding to the unifier, which is slow to find it
  unfold parsePatterns; rfl

def cBranch (c : Codec) (known : String → Bool) (srcOk : Source → Bool) (syn : String)
    (b : Option RawBranch) : Except CompileErr CBranch :=
  match b with
  | none => Except.error CompileErr.nullBranch
  | some b =>
    match parseAndCanon c syn b.pattern with
    | .error e => .error e
    | .ok p =>
      match compileSource known srcOk b.guard with
      | .error e => .error e
      | .ok g => .ok ({ pattern := p, guard := g, target := b.target } : CBranch)

def cNode (c : Codec) (known : String → Bool) (srcOk : Source → Bool) (syn : String)
    (p : String × Option RawNode) : Except CompileErr (String × CNode) :=
  let n : RawNode := p.2.getD { action := none, branching := none }
  match compileSource known srcOk n.action with
  | .error e => Except.error e
  | .ok a =>
    match n.branching with
    | none => .ok (p.1, ({ action := a, branches := none } : CNode))
    | some br =>
      let ty := if br.type == "" then "bindings" else br.type
      if ty != "message" && ty != "bindings" then .error (.unknownBranchingType br.type)
      else match mapM' (cBranch c known srcOk syn) br.branches with
        | .error e => .error e
        | .ok bs => .ok (p.1, { action := a, branches := some (ty, bs) })

def errName (s : RawSpec) : String := if s.errorNode == "" then "error" else s.errorNode

def nodes1 (s : RawSpec) : List (String × Option RawNode) :=
  if ((s.nodes.getD []).any (fun p => p.1 == errName s)) || s.noAutoErrorNode then s.nodes.getD []
  else s.nodes.getD [] ++ [(errName s, some { action := none, branching := none })]

/-- `compile` after `parsePatterns` -/
def compileCore (c : Codec) (known : String → Bool) (srcOk : Source → Bool) (s : RawSpec) :
    Except CompileErr CSpec :=
  match mapM' (cNode c known srcOk s.patternSyntax) (nodes1 s) with
  | .error e => .error e
  | .ok ns => .ok { name := s.name, nodes := ns, actionErrorBranches := s.actionErrorBranches,
                    actionErrorNode := s.actionErrorNode, errorNode := errName s,
                    noAutoErrorNode := s.noAutoErrorNode }

theorem compile_eq (c : Codec) (known : String → Bool) (srcOk : Source → Bool) (s0 : RawSpec) :
    compile c known srcOk s0 =
      match parsePatterns c s0 with
      | .error e => .error e
      | .ok s => compileCore c known srcOk s := by
  unfold compile compileCore; rfl

/-! ## facts about the pieces of `compile` -/

theorem nullToNone_of_ne (v : V) :
    v ≠ .null → (match v with | .null => (none : Option V) | x => some x) = some v := by
  intro h
  cases v <;> first | rfl | exact absurd rfl h

theorem parsePattern_plain (hs : syn = "" ∨ syn = "none") (p : Option V) :
    parsePattern c syn p = .ok p :=
  if_pos (by simpa only [Bool.or_eq_true, beq_iff_eq] using hs.symm)

theorem parsePattern_bad (hs : syn ≠ "" ∧ syn ≠ "none" ∧ syn ≠ "json") (p : Option V) :
    parsePattern c syn p = .error (.badSyntax syn) := by
  unfold parsePattern
  rw [beq_false_of_ne hs.1, beq_false_of_ne hs.2.1, beq_false_of_ne hs.2.2]
  rfl

theorem parseAndCanon_empty (c : Codec) (p : Option V) : parseAndCanon c "" p = canonicalize c p := by
  rw [parseAndCanon, parsePattern_plain (.inl rfl)]

theorem compileSource_ok {a a' : Option Source}
    (h : compileSource known srcOk a = .ok a') : a' = a := by
  unfold compileSource at h
  repeat' split at h
  all_goals cases h
  all_goals rfl

/-- a branching type that passed the check was not defaulted: the empty type would not have passed -/
theorem resolved_type {ty : String} (h : ¬ ((ty != "message" && ty != "bindings") = true)) :
    (if ty == "" then "bindings" else ty) = ty :=
  if_neg fun h0 => h (by rw [eq_of_beq h0]; decide +kernel)

theorem errName_ne_empty (s : RawSpec) : (errName s == "") = false := by
  unfold errName
  split
  · decide +kernel
  · next h => exact Bool.eq_false_iff.mpr h

theorem nodes1_hasErr (s : RawSpec) :
    ((nodes1 s).any (fun p => p.1 == errName s) || s.noAutoErrorNode) = true := by
  unfold nodes1
  split
  · assumption
  · simp [List.any_append]

/-! ## compiling a dump -/

/-- every pattern of a compiled spec is a fixed point of `canonicalize` -/
def CanonFixed (c : Codec) (cs : CSpec) : Prop :=
  ∀ name nd, (name, nd) ∈ cs.nodes → ∀ ty bs, nd.branches = some (ty, bs) →
    ∀ b, b ∈ bs → canonicalize c b.pattern = .ok b.pattern

def dBranch (b : CBranch) : Option RawBranch :=
  some { pattern := b.pattern, guard := b.guard, target := b.target }

def dNode (x : String × CNode) : String × Option RawNode :=
  (x.1, some { action := x.2.action,
               branching := x.2.branches.map (fun y =>
                 { type := y.1, branches := y.2.map dBranch }) })

theorem decompile_nodes (cs : CSpec) : (decompile cs).nodes = some (cs.nodes.map dNode) := rfl

theorem decompile_syntax (cs : CSpec) : (decompile cs).patternSyntax = "" := rfl

/-- `parsePatterns` leaves a dump alone: branch by branch in every node -/
theorem parsePatterns_decompile {cs : CSpec} (h : CanonFixed c cs) :
    parsePatterns c (decompile cs) = .ok (decompile cs) := by
  have hm : mapM' (ppNode c "") (cs.nodes.map dNode) = .ok (cs.nodes.map dNode) :=
    mapM'_ok_self fun z hz => by
      obtain ⟨⟨name, nd⟩, hx, rfl⟩ := List.mem_map.mp hz
      cases hb : nd.branches with
      | none => simp only [ppNode, dNode, hb, Option.map_none]
      | some y =>
        have hbs : mapM' (ppBranch c "") (y.2.map dBranch) = .ok (y.2.map dBranch) :=
          mapM'_ok_self fun z hz => by
            obtain ⟨b, hb', rfl⟩ := List.mem_map.mp hz
            simp only [ppBranch, dBranch, parseAndCanon_empty, h name nd hx y.1 y.2 hb b hb']
        simp only [ppNode, dNode, hb, Option.map_some, hbs]
  rw [parsePatterns_eq, decompile_nodes, decompile_syntax]
  simp only [hm]
  rfl

theorem compileSource_idem {a a' : Option Source} (h : compileSource known srcOk a = .ok a') :
    compileSource known srcOk a' = .ok a' :=
  compileSource_ok h ▸ h

theorem cBranch_idem {b : Option RawBranch} {cb : CBranch} (h : cBranch c known srcOk syn b = .ok cb)
    (hc : canonicalize c cb.pattern = .ok cb.pattern) :
    cBranch c known srcOk "" (dBranch cb) = .ok cb := by
  unfold cBranch at h
  split at h
  · cases h
  · split at h
    · cases h
    · split at h <;> cases h
      next g hg =>
        simp only at hc
        simp only [cBranch, dBranch, parseAndCanon_empty, hc, compileSource_idem hg]

theorem cNode_idem {p : String × Option RawNode} {q : String × CNode}
    (h : cNode c known srcOk syn p = .ok q)
    (hc : ∀ ty bs, q.2.branches = some (ty, bs) → ∀ b, b ∈ bs →
      canonicalize c b.pattern = .ok b.pattern) :
    q.1 = p.1 ∧ cNode c known srcOk "" (dNode q) = .ok q := by
  dsimp only [cNode] at h
  split at h
  · cases h
  · next a ha =>
    have ha' := compileSource_idem ha
    split at h
    · cases h
      exact ⟨rfl, by simp only [cNode, dNode, Option.getD_some, ha', Option.map_none]⟩
    · next br _ =>
      generalize (if br.type == "" then "bindings" else br.type) = ty at h
      split at h
      · cases h
      · next hty =>
        split at h <;> cases h
        next bs hm =>
        have hm' := mapM'_retract (g := cBranch c known srcOk "") (h := dBranch) hm
          fun x y hy hxy => cBranch_idem hxy (hc ty bs rfl y hy)
        exact ⟨rfl, by
          simp only [cNode, dNode, Option.getD_some, ha', Option.map_some, resolved_type hty, hty, hm',
            Bool.false_eq_true, if_false]⟩

theorem compileCore_idem {s : RawSpec} {cs : CSpec} (h : compileCore c known srcOk s = .ok cs)
    (hc : CanonFixed c cs) : compileCore c known srcOk (decompile cs) = .ok cs := by
  unfold compileCore at h
  split at h <;> cases h
  next ns hm =>
  have hidem : ∀ x y, y ∈ ns → cNode c known srcOk s.patternSyntax x = .ok y →
      y.1 = x.1 ∧ cNode c known srcOk "" (dNode y) = .ok y :=
    fun x y hy hxy => cNode_idem hxy (fun ty bs hb b hb' => hc y.1 y.2 hy ty bs hb b hb')
  generalize hcs : (⟨s.name, ns, s.actionErrorBranches, s.actionErrorNode, errName s,
    s.noAutoErrorNode⟩ : CSpec) = cs
  have he : errName (decompile cs) = errName s := by
    subst hcs
    exact if_neg (ne_true_of_eq_false (errName_ne_empty s))
  -- the error node is among the compiled nodes (or was not wanted), so none is added
  have hn : nodes1 (decompile cs) = ns.map dNode := by
    unfold nodes1
    rw [he, decompile_nodes]
    subst hcs
    refine if_pos ?_
    have h1 := nodes1_hasErr s
    simp only [Bool.or_eq_true, List.any_eq_true, Option.getD_some] at h1 ⊢
    refine h1.imp_left fun ⟨x, hx, hxe⟩ => ?_
    obtain ⟨y, hy, hxy⟩ := mapM'_ok_mem hm hx
    exact ⟨dNode y, List.mem_map_of_mem hy, (hidem x y hy hxy).1 ▸ hxe⟩
  unfold compileCore
  rw [hn, he, decompile_syntax, mapM'_retract hm fun x y hy hxy => (hidem x y hy hxy).2]
  subst hcs
  rfl

/-- compiling the dump of a compiled spec whose patterns are canonical gives the spec back -/
theorem compile_idem {s : RawSpec} {cs : CSpec} (h : compile c known srcOk s = .ok cs)
    (hc : CanonFixed c cs) : compile c known srcOk (decompile cs) = .ok cs := by
  rw [compile_eq] at h
  split at h
  · cases h
  · rw [compile_eq, parsePatterns_decompile hc]
    exact compileCore_idem h hc

theorem mem_nodes1 {s : RawSpec} {ns : List (String × Option RawNode)} {x : String × Option RawNode}
    (hn : s.nodes = some ns) (hx : x ∈ ns) : x ∈ nodes1 s := by
  unfold nodes1
  rw [hn]
  simp only [Option.getD_some]
  split
  · exact hx
  · exact List.mem_append_left _ hx

theorem compileCore_error_of_node
    {s : RawSpec} {x : String × Option RawNode} {e : CompileErr}
    (hx : x ∈ nodes1 s) (h : cNode c known srcOk s.patternSyntax x = .error e) :
    ∃ e', compileCore c known srcOk s = .error e' := by
  obtain ⟨e', he'⟩ := mapM'_error_of_mem hx h
  exact ⟨e', by simp only [compileCore, he']⟩

/-- a node of the document that fails in `ppNode`, or whose parsed form fails in `cNode`, makes
    `compile` fail (after `parsePatterns` the syntax is cleared) -/
theorem compile_error_of_node {s : RawSpec} {nodes : List (String × Option RawNode)}
    {x : String × Option RawNode} (hn : s.nodes = some nodes) (hx : x ∈ nodes)
    (H : ∀ q, ppNode c s.patternSyntax x = .ok q → ∃ e, cNode c known srcOk "" q = .error e) :
    ∃ e, compile c known srcOk s = .error e := by
  rw [compile_eq, parsePatterns_eq, hn]
  simp only
  cases hm : mapM' (ppNode c s.patternSyntax) nodes with
  | error e => exact ⟨e, rfl⟩
  | ok ns =>
    obtain ⟨q, hq, hxq⟩ := mapM'_ok_mem hm hx
    obtain ⟨e, he⟩ := H q hxq
    exact compileCore_error_of_node (mem_nodes1 rfl hq) he

variable {name : String} {n : RawNode} {q : String × Option RawNode}

/-- what `ppNode` does to a non-null node -/
theorem ppNode_ok_some (h : ppNode c syn (name, some n) = .ok q) :
    ∃ n', q = (name, some n') ∧ n'.action = n.action ∧
      ∀ br, n.branching = some br →
        ∃ bs, mapM' (ppBranch c syn) br.branches = .ok bs ∧
          n'.branching = some { br with branches := bs } := by
  dsimp only [ppNode] at h
  split at h
  · next hb =>
    cases h
    exact ⟨n, rfl, rfl, fun br hbr => by rw [hb] at hbr; cases hbr⟩
  · next br hb =>
    split at h <;> cases h
    next bs hm =>
    refine ⟨_, rfl, rfl, fun br' hbr' => ?_⟩
    cases hb.symm.trans hbr'
    exact ⟨bs, hm, rfl⟩

/-- a node that `compile` rejects whatever its patterns are: an unknown interpreter for the action, an
    unknown branching type, a null branch -/
def Bad (known : String → Bool) (n : RawNode) : Prop :=
  (∃ src, n.action = some src ∧ known src.interpreter = false) ∨
  ∃ br, n.branching = some br ∧
    ((br.type ≠ "" ∧ br.type ≠ "message" ∧ br.type ≠ "bindings") ∨ none ∈ br.branches)

theorem Bad.of_ppNode (hb : Bad known n) (h : ppNode c syn (name, some n) = .ok q) :
    ∃ n', q = (name, some n') ∧ Bad known n' := by
  obtain ⟨n', rfl, hact, hbr⟩ := ppNode_ok_some h
  refine ⟨n', rfl, ?_⟩
  rcases hb with ⟨src, ha, hk⟩ | ⟨br, hb, hd⟩
  · exact .inl ⟨src, hact.trans ha, hk⟩
  · obtain ⟨bs, hbs, hb'⟩ := hbr br hb
    refine .inr ⟨_, hb', hd.imp_right fun hnull => ?_⟩
    obtain ⟨y, hy, hyn⟩ := mapM'_ok_mem hbs hnull
    cases hyn
    exact hy

theorem Bad.cNode_error (hb : Bad known n) :
    ∃ e, cNode c known srcOk syn (name, some n) = .error e := by
  dsimp only [cNode, Option.getD_some]
  rcases hb with ⟨src, ha, hk⟩ | ⟨br, hb, hd⟩
  · exact ⟨.interpreterNotFound, by simp only [ha, compileSource, hk, Bool.not_false, if_true]⟩
  · rw [hb]
    cases compileSource known srcOk n.action with
    | error e => exact ⟨e, rfl⟩
    | ok a =>
      dsimp only
      rcases hd with ht | hnull
      · exact ⟨.unknownBranchingType br.type, by simp [ht.1, ht.2.1, ht.2.2]⟩
      · generalize (if br.type == "" then "bindings" else br.type) = ty0
        split
        · exact ⟨_, rfl⟩
        · obtain ⟨e', he'⟩ :=
            mapM'_error_of_mem (f := cBranch c known srcOk syn) (e := .nullBranch) hnull rfl
          exact ⟨e', by simp only [he']⟩

theorem compile_error_of_bad {s : RawSpec} {nodes : List (String × Option RawNode)}
    (hn : s.nodes = some nodes) (hm : (name, some n) ∈ nodes) (hb : Bad known n) :
    ∃ e, compile c known srcOk s = .error e :=
  compile_error_of_node hn hm fun q hq => by
    obtain ⟨n', rfl, hb'⟩ := hb.of_ppNode hq
    exact hb'.cNode_error

theorem ppNode_error_bad_syntax {br : RawBranching} {b : RawBranch}
    (hb : n.branching = some br) (hbr : some b ∈ br.branches)
    (hs : syn ≠ "" ∧ syn ≠ "none" ∧ syn ≠ "json") :
    ∃ e, ppNode c syn (name, some n) = .error e := by
  have hbb : ppBranch c syn (some b) = .error (.badSyntax syn) := by
    simp only [ppBranch, parseAndCanon, parsePattern_bad hs]
  obtain ⟨e', he'⟩ := mapM'_error_of_mem hbr hbb
  exact ⟨e', by simp only [ppNode, hb, he']⟩

end Compile
