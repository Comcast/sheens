import Sheens.Proofs.WalkLemmas

/-! # Splitting a batch of messages (`walk_split`): limit independence and the simulation lemma -/

/-- no breakpoint -/
def nobp : State → Bool := fun _ => false

/-- `finalState` on the strides alone: the state they end in, falling back to the start state -/
def finalOf (st : State) (l : List Stride) : State := (lastTo l).getD st

/-- `emittedOf` on the strides alone -/
def emS (l : List Stride) : List V := l.flatMap (·.emitted)

theorem finalOf_cons (st : State) (sd : Stride) (l : List Stride) :
    finalOf st (sd :: l) = finalOf (sd.to.getD st) l := lastTo_cons_getD sd l st

theorem finalOf_nil (st : State) : finalOf st [] = st := rfl

theorem emS_cons (sd : Stride) (l : List Stride) : emS (sd :: l) = sd.emitted ++ emS l := by
  simp [emS]

theorem Wn_end {s : Spec} {st : State} {p : List V}
    (h : ends (walkStride s st (pendingOf p)) p = true) (i : Nat) :
    W s nobp (i+1) st p =
      { strides := [walkStride s st (pendingOf p)], remaining := [], stopped := .done } := by
  rw [W_succ]; exact if_pos h

theorem Wn_go {s : Spec} {st : State} {p : List V}
    (h : ends (walkStride s st (pendingOf p)) p = false) (i : Nat) :
    W s nobp (i+1) st p =
      (W s nobp i ((walkStride s st (pendingOf p)).to.getD st)
        (after (walkStride s st (pendingOf p)) p)).cons (walkStride s st (pendingOf p)) := by
  rw [W_succ]; exact if_neg fun h' => Bool.false_ne_true (h.symm.trans h')

theorem W_done_pos {s : Spec} {bp : State → Bool} {i : Nat} {st : State} {p : List V}
    (h : (W s bp i st p).stopped = .done) : ∃ i', i = i' + 1 := by
  cases i with
  | zero => rw [W_zero] at h; cases h
  | succ i' => exact ⟨i', rfl⟩

theorem W_limit_indep (s : Spec) : ∀ i k st p,
    (W s nobp i st p).stopped = .done → (W s nobp k st p).stopped = .done →
    (W s nobp i st p).strides = (W s nobp k st p).strides := by
  intro i
  induction i with
  | zero => intro k st p h; rw [W_zero] at h; cases h
  | succ i ih =>
    intro k st p h1 h2
    obtain ⟨k', rfl⟩ := W_done_pos h2
    cases e : ends (walkStride s st (pendingOf p)) p with
    | true => rw [Wn_end e, Wn_end e]
    | false =>
      rw [Wn_go e] at h1 h2
      rw [Wn_go e i, Wn_go e k']
      simp only [Walked.cons] at h1 h2 ⊢
      rw [ih k' _ _ h1 h2]

theorem W_stuck (s : Spec) (st : State) (q : Option V) (hc : canConsume s st.node = false)
    (ht : (walkStride s st q).to = none) (k : Nat) (p : List V) :
    W s nobp (k+1) st p = { strides := [walkStride s st q], remaining := [], stopped := .done } := by
  rw [Wn_end (by simp [ends, walkStride_indep s st hc _ q, ht, walkStride_nonconsumer s st q hc]),
    walkStride_indep s st hc _ q]

theorem W_idle (s : Spec) (st : State) (hc : canConsume s st.node = true) (k : Nat) :
    W s nobp (k+1) st [] = { strides := [idleStride st], remaining := [], stopped := .done } := by
  have hq : walkStride s st (pendingOf []) = idleStride st := walkStride_consumer_none s st hc
  rw [Wn_end (by rw [hq]; rfl), hq]

theorem finalOf_single (st : State) (sd : Stride) (h : sd.to = none) : finalOf st [sd] = st := by
  rw [finalOf_cons, h]; rfl

theorem after_of_none (sd : Stride) (p : List V) (h : sd.consumed = none) : after sd p = p := by
  unfold after; rw [h]; rfl

theorem after_append (sd : Stride) (m : V) (a b : List V) :
    after sd ((m :: a) ++ b) = after sd (m :: a) ++ b := by
  unfold after; split <;> rfl

theorem W_split (s : Spec) : ∀ j i k st a b, NonNullL (a ++ b) →
    (W s nobp j st a).stopped = .done →
    (W s nobp i st (a ++ b)).stopped = .done →
    (W s nobp k (finalOf st (W s nobp j st a).strides) b).stopped = .done →
    finalOf st (W s nobp i st (a ++ b)).strides =
      finalOf (finalOf st (W s nobp j st a).strides)
        (W s nobp k (finalOf st (W s nobp j st a).strides) b).strides ∧
    emS (W s nobp i st (a ++ b)).strides =
      emS (W s nobp j st a).strides ++
        emS (W s nobp k (finalOf st (W s nobp j st a).strides) b).strides := by
  intro j
  induction j with
  | zero => intro i k st a b _ h; rw [W_zero] at h; cases h
  | succ j ih =>
    intro i k st a b hnn h1 h2 h3
    obtain ⟨i, rfl⟩ := W_done_pos h2
    -- the first stride, and what it leaves of the messages, is the same with and without `b`
    -- behind `a`, unless `a` is empty and `b` is looked at
    have hsd : (a = [] ∧ canConsume s st.node = true) ∨
        walkStride s st (pendingOf (a ++ b)) = walkStride s st (pendingOf a) ∧
        after (walkStride s st (pendingOf a)) (a ++ b) = after (walkStride s st (pendingOf a)) a ++ b ∧
        ((walkStride s st (pendingOf a)).consumed = none → canConsume s st.node = false) := by
      cases a with
      | nil =>
        cases hc : canConsume s st.node with
        | true => exact .inl ⟨rfl, rfl⟩
        | false =>
          refine .inr ⟨walkStride_indep s st hc _ _, ?_, fun _ => rfl⟩
          rw [after_of_none _ _ (walkStride_nonconsumer s st _ hc),
            after_of_none _ _ (walkStride_nonconsumer s st _ hc)]
      | cons m a' =>
        have hm := hnn m (List.mem_append_left _ List.mem_cons_self)
        refine .inr ⟨by rw [List.cons_append, pendingOf_cons _ hm, pendingOf_cons _ hm],
          after_append _ _ _ _, fun h => ?_⟩
        cases hc : canConsume s st.node with
        | false => rfl
        | true => rw [pendingOf_cons _ hm, walkStride_consumer_some s st m hc] at h; cases h
    rcases hsd with ⟨rfl, hc⟩ | ⟨hsd, haft, hnc⟩
    · -- a consuming node and no message: `a` gives one idle stride
      rw [W_idle s st hc j, finalOf_single st _ rfl] at h3 ⊢
      rw [List.nil_append] at h2 ⊢
      rw [W_limit_indep s (i+1) k st b h2 h3]
      exact ⟨rfl, rfl⟩
    · cases ea : ends (walkStride s st (pendingOf a)) a with
      | false =>
        -- `a` goes on, and so does `a ++ b`
        have eab : ends (walkStride s st (pendingOf (a ++ b))) (a ++ b) = false := by
          rw [hsd]
          simp only [ends, haft] at ea ⊢
          revert ea
          generalize walkStride s st (pendingOf a) = sd
          cases sd.to.isNone <;> cases sd.consumed.isNone <;> simp <;> exact fun h h' => absurd h' h
        rw [Wn_go ea] at h1 h3 ⊢
        rw [Wn_go eab, hsd, haft] at h2 ⊢
        simp only [Walked.cons, finalOf_cons, emS_cons] at h1 h2 h3 ⊢
        have hnn' := (consumed_after s st (a ++ b) hnn).2
        rw [hsd, haft] at hnn'
        obtain ⟨e1, e2⟩ := ih i k _ _ b hnn' h1 h2 h3
        exact ⟨e1, by rw [e2, List.append_assoc]⟩
      | true =>
        -- `a` ends here, where it started, having emitted nothing
        have hto : (walkStride s st (pendingOf a)).to = none := by
          simp only [ends, Bool.and_eq_true, Option.isNone_iff_eq_none] at ea; exact ea.1
        have hem := walkStride_stuck_emits s st _ hto
        rw [Wn_end ea, finalOf_single st _ hto] at h3 ⊢
        obtain ⟨k, rfl⟩ := W_done_pos h3
        cases eab : ends (walkStride s st (pendingOf (a ++ b))) (a ++ b) with
        | false =>
          -- the last message of `a` was consumed: `a ++ b` goes on from here with `b`
          have hab : after (walkStride s st (pendingOf a)) a = [] := by
            rw [hsd] at eab
            simp only [ends, haft, hto] at ea eab
            revert ea eab
            cases (walkStride s st (pendingOf a)).consumed.isNone <;> simp <;> exact fun h _ => h
          rw [Wn_go eab, hsd, haft, hab, hto] at h2 ⊢
          simp only [Walked.cons, finalOf_cons, emS_cons, hto, hem, Option.getD_none,
            List.nil_append] at h2 ⊢
          rw [W_limit_indep s i (k+1) st b h2 h3]
          exact ⟨rfl, rfl⟩
        | true =>
          rw [Wn_end eab, hsd, finalOf_single st _ hto, emS_cons, hem]
          -- `b` alone makes the same stride (a non-consuming node) or an idle one (`b` is empty)
          by_cases hcons : (walkStride s st (pendingOf a)).consumed = none
          · rw [W_stuck s st _ (hnc hcons) hto k b, finalOf_single st _ hto, emS_cons, hem]
            exact ⟨rfl, rfl⟩
          · have hb : b = [] := by
              rw [hsd] at eab
              simp only [ends, haft, hto] at eab
              revert eab
              cases h : (walkStride s st (pendingOf a)).consumed with
              | none => exact absurd h hcons
              | some _ => simp
            have hc : canConsume s st.node = true := by
              cases hc : canConsume s st.node with
              | true => rfl
              | false => exact absurd (walkStride_nonconsumer s st _ hc) hcons
            subst hb
            rw [W_idle s st hc k]
            exact ⟨rfl, rfl⟩
