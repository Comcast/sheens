import Sheens.MatchSpec
import Sheens.Proofs.ValPred

/-!
# Well-formedness predicates for the soundness theorem (C01)

* `V.good`     : what a JSON message / bound value looks like
* `V.plainPat` : what a JSON pattern looks like
* `GoodBs`, `IneqPrebound`
* `Extends` is a preorder, and `Sat` is monotone in the result bindings (`sat_mono`)
-/

def keyFresh (k : String) : List (String × V) → Bool
  | [] => true
  | (k', _) :: rest => k != k' && keyFresh k rest

mutual
/-- hereditarily JSON-plain (no `.int/.bobj/.other`), no string beginning with '?' anywhere
    (keys included), object keys pairwise distinct -/
def V.good : V → Bool
  | .null => true
  | .bool _ => true
  | .num _ => true
  | .str s => !isVar s
  | .arr xs => goodList xs
  | .obj kvs => goodKvs kvs
  | .int _ => false
  | .bobj _ => false
  | .other _ => false
def goodList : List V → Bool
  | [] => true
  | x :: xs => x.good && goodList xs
def goodKvs : List (String × V) → Bool
  | [] => true
  | (k, v) :: rest => !isVar k && v.good && keyFresh k rest && goodKvs rest
end

mutual
/-- hereditarily JSON-plain pattern (variables allowed), object keys pairwise distinct -/
def V.plainPat : V → Bool
  | .null => true
  | .bool _ => true
  | .num _ => true
  | .str _ => true
  | .arr xs => plainPatList xs
  | .obj kvs => plainPatKvs kvs
  | .int _ => false
  | .bobj _ => false
  | .other _ => false
def plainPatList : List V → Bool
  | [] => true
  | x :: xs => x.plainPat && plainPatList xs
def plainPatKvs : List (String × V) → Bool
  | [] => true
  | (k, v) :: rest => v.plainPat && keyFresh k rest && plainPatKvs rest
end

def GoodBs (bs : Bs) : Prop := ∀ k v, lookup k bs = some v → v.good = true

/-- a variable whose name carries an inequality operator is used as documented:
    it is pre-bound in the given bindings -/
def IneqPrebound (p : V) (bs₀ : Bs) : Prop :=
  ∀ v ∈ varsOf p, ineqOf v ≠ none → lookup v bs₀ ≠ none

theorem fudge_good {f : V} (h : f.good = true) : fudge f = f := by
  cases f with
  | int _ => cases h
  | _ => rfl

theorem fudge_plainPat {p : V} (h : p.plainPat = true) : fudge p = p := by
  cases p with
  | int _ => cases h
  | _ => rfl

theorem lookup_of_keyFresh {k : String} {kvs : List (String × V)} (h : keyFresh k kvs = true) :
    lookup k kvs = none := by
  induction kvs with
  | nil => rfl
  | cons kv rest ih =>
    obtain ⟨k', v⟩ := kv
    simp only [keyFresh, Bool.and_eq_true, bne_iff_ne, ne_eq] at h
    simp only [lookup, h.1, ↓reduceIte]
    exact ih h.2

theorem keyFresh_iff {k : String} {kvs : List (String × V)} :
    keyFresh k kvs = true ↔ k ∉ kvs.map Prod.fst := by
  induction kvs with
  | nil => simp [keyFresh]
  | cons kv rest ih =>
    obtain ⟨k', v⟩ := kv
    simp only [keyFresh, Bool.and_eq_true, bne_iff_ne, ne_eq, ih, List.map_cons, List.mem_cons,
      not_or]

theorem goodKvs_mem {fm : List (String × V)} (hg : goodKvs fm = true) :
    ∀ kv ∈ fm, isVar kv.1 = false ∧ kv.2.good = true := by
  induction fm with
  | nil => intro kv hm; cases hm
  | cons kv rest ih =>
    obtain ⟨k', v⟩ := kv
    simp only [goodKvs, Bool.and_eq_true, Bool.not_eq_true'] at hg
    intro kv hm
    rcases List.mem_cons.mp hm with rfl | hm
    · exact hg.1.1
    · exact ih hg.2 kv hm

theorem good_lookup {fm : List (String × V)} {k : String} {fv : V}
    (hg : goodKvs fm = true) (hl : lookup k fm = some fv) : fv.good = true :=
  (goodKvs_mem hg _ (mem_of_lookup hl)).2

theorem goodList_eq_all : (xs : List V) → goodList xs = xs.all V.good
  | [] => rfl
  | x :: xs => congrArg (x.good && ·) (goodList_eq_all xs)

theorem goodList_mem {xs : List V} (hg : goodList xs = true) : ∀ x ∈ xs, x.good = true :=
  List.all_eq_true.mp (goodList_eq_all xs ▸ hg)

theorem plainPatList_eq_all : (xs : List V) → plainPatList xs = xs.all V.plainPat
  | [] => rfl
  | x :: xs => congrArg (x.plainPat && ·) (plainPatList_eq_all xs)

theorem plainPatList_mem {xs : List V} (hg : plainPatList xs = true) :
    ∀ x ∈ xs, x.plainPat = true :=
  List.all_eq_true.mp (plainPatList_eq_all xs ▸ hg)

mutual
theorem good_plainPat : (f : V) → f.good = true → f.plainPat = true
  | .null, _ | .bool _, _ | .num _, _ | .str _, _ => rfl
  | .arr xs, h => goodList_plainPat xs h
  | .obj kvs, h => goodKvs_plainPat kvs h
  | .int _, h | .bobj _, h | .other _, h => nomatch h
theorem goodList_plainPat : (xs : List V) → goodList xs = true → plainPatList xs = true
  | [], _ => rfl
  | x :: xs, h => by
    simp only [goodList, Bool.and_eq_true] at h
    simp only [plainPatList, Bool.and_eq_true]
    exact ⟨good_plainPat x h.1, goodList_plainPat xs h.2⟩
theorem goodKvs_plainPat : (kvs : List (String × V)) → goodKvs kvs = true → plainPatKvs kvs = true
  | [], _ => rfl
  | (k, v) :: rest, h => by
    simp only [goodKvs, Bool.and_eq_true] at h
    simp only [plainPatKvs, Bool.and_eq_true]
    exact ⟨⟨good_plainPat v h.1.1.2, h.1.2⟩, goodKvs_plainPat rest h.2⟩
end

mutual
theorem good_varsOf : (f : V) → f.good = true → varsOf f = []
  | .null, _ | .bool _, _ | .num _, _ => rfl
  | .str s, h => if_neg (by simpa [V.good] using h)
  | .arr xs, h => goodList_varsOf xs h
  | .obj kvs, h => goodKvs_varsOf kvs h
  | .int _, h | .bobj _, h | .other _, h => nomatch h
theorem goodList_varsOf : (xs : List V) → goodList xs = true → varsOfList xs = []
  | [], _ => rfl
  | x :: xs, h => by
    simp only [goodList, Bool.and_eq_true] at h
    simp [varsOfList, good_varsOf x h.1, goodList_varsOf xs h.2]
theorem goodKvs_varsOf : (kvs : List (String × V)) → goodKvs kvs = true → varsOfKvs kvs = []
  | [], _ => rfl
  | (k, v) :: rest, h => by
    simp only [goodKvs, Bool.and_eq_true, Bool.not_eq_true'] at h
    simp [varsOfKvs, h.1.1.1, good_varsOf v h.1.1.2, goodKvs_varsOf rest h.2]
end

/-- `ObjSat` only looks the pattern keys up in the fact map, so it is monotone under
    prepending a fresh key to the fact map -/
theorem ObjSat.weaken_fact {bs₀ r : Bs} {pm fm : List (String × V)} {k : String} {v : V}
    (hfresh : keyFresh k pm = true) (h : ObjSat bs₀ r pm fm) : ObjSat bs₀ r pm ((k, v) :: fm) := by
  induction pm with
  | nil => exact ObjSat.nil
  | cons kv rest ih =>
    obtain ⟨k', pv⟩ := kv
    simp only [keyFresh, Bool.and_eq_true, bne_iff_ne, ne_eq] at hfresh
    have hne : ¬k' = k := fun e => hfresh.1 e.symm
    cases h with
    | present hk hl hs hr => exact .present hk ((if_neg hne).trans hl) hs (ih hfresh.2 hr)
    | absent hk hl ho hr => exact .absent hk ((if_neg hne).trans hl) ho (ih hfresh.2 hr)

mutual
/-- a good value, read as a pattern, is contained in itself -/
theorem sat_refl (bs₀ r : Bs) : (f : V) → f.good = true → Sat bs₀ r f f
  | .null, _ | .bool _, _ | .num _, _ => Sat.scalar rfl rfl
  | .str _, h => Sat.scalar h rfl
  | .arr xs, h => Sat.arr (arr_refl bs₀ r xs h)
  | .obj kvs, h => Sat.obj (obj_refl bs₀ r kvs h)
  | .int _, h | .bobj _, h | .other _, h => nomatch h
theorem arr_refl (bs₀ r : Bs) : (xs : List V) → goodList xs = true → ArrEmb bs₀ r xs xs
  | [], _ => ArrEmb.nil
  | x :: xs, h => by
    simp only [goodList, Bool.and_eq_true] at h
    exact ArrEmb.cons Pick.here (sat_refl bs₀ r x h.1) (arr_refl bs₀ r xs h.2)
theorem obj_refl (bs₀ r : Bs) : (kvs : List (String × V)) → goodKvs kvs = true →
    ObjSat bs₀ r kvs kvs
  | [], _ => ObjSat.nil
  | (k, v) :: rest, h => by
    simp only [goodKvs, Bool.and_eq_true, Bool.not_eq_true'] at h
    obtain ⟨⟨⟨hk, hv⟩, hf⟩, hr⟩ := h
    exact ObjSat.present hk (if_pos rfl) (sat_refl bs₀ r v hv)
      (ObjSat.weaken_fact hf (obj_refl bs₀ r rest hr))
end

/-- Bool version of `GoodBs`: every *visible* (first-hit) binding is good -/
def goodBsB (bs : Bs) : Bool :=
  bs.all (fun kv => match lookup kv.1 bs with | some v => v.good | none => true)

theorem goodBs_iff {bs : Bs} : GoodBs bs ↔ goodBsB bs = true := by
  unfold GoodBs goodBsB
  rw [List.all_eq_true]
  constructor
  · intro h kv _
    split
    · next v hv => exact h _ _ hv
    · rfl
  · intro h k v hl
    simpa only [hl] using h (k, v) (mem_of_lookup hl)

instance (bs : Bs) : Decidable (GoodBs bs) := decidable_of_iff _ goodBs_iff.symm

instance (p : V) (bs₀ : Bs) : Decidable (IneqPrebound p bs₀) := by
  unfold IneqPrebound; infer_instance

theorem Extends.refl (a : Bs) : Extends a a := fun _ _ h => h
theorem Extends.trans {a b c : Bs} (h1 : Extends a b) (h2 : Extends b c) : Extends a c :=
  fun k v h => h2 k v (h1 k v h)

theorem extends_cons_fresh {s : String} {v : V} {bs : Bs} (h : lookup s bs = none) :
    Extends bs ((s, v) :: bs) := by
  intro k w hk
  simp only [lookup]
  split
  · next heq => subst heq; rw [h] at hk; cases hk
  · exact hk

theorem goodBs_cons {s : String} {v : V} {bs : Bs} (hv : v.good = true) (hb : GoodBs bs) :
    GoodBs ((s, v) :: bs) := by
  intro k w hk
  simp only [lookup] at hk
  split at hk
  · cases hk; exact hv
  · exact hb k w hk

/-- the inequality reading, once off, stays off when the bindings grow -/
theorem ineqActive_mono {bs₀ r r' : Bs} {v : String} {f : V} (he : Extends r r')
    (h : ineqActive bs₀ r v f = false) : ineqActive bs₀ r' v f = false := by
  revert h
  unfold ineqActive
  split
  · exact id
  · next base _ =>
    split
    · exact id
    · cases hl : lookup base r with
      | none =>
        intro h
        rw [Bool.and_true] at h
        rw [h]; rfl
      | some c => rw [he _ _ hl]; exact id

/-- `Sat`, `ObjSat` and `ArrEmb` are monotone in the result bindings.  The three recursors take the
    same cases, one for each constructor; they are given once, as named holes.  (Structural
    recursion over the three predicates says the same and costs twelve times as much to check.) -/
theorem sat_mono {bs₀ r r' : Bs} (he : Extends r r') :
    (∀ {p f}, Sat bs₀ r p f → Sat bs₀ r' p f) ∧
    (∀ {pm fm}, ObjSat bs₀ r pm fm → ObjSat bs₀ r' pm fm) ∧
    (∀ {ps fs}, ArrEmb bs₀ r ps fs → ArrEmb bs₀ r' ps fs) := by
  refine ⟨@Sat.rec bs₀ r _ _ _
      ?scalar ?anon ?var ?ineq ?objEmpty ?objProp ?obj ?arr ?nil ?present ?absent ?anil ?cons ?skip,
    @ObjSat.rec bs₀ r _ _ _
      ?scalar ?anon ?var ?ineq ?objEmpty ?objProp ?obj ?arr ?nil ?present ?absent ?anil ?cons ?skip,
    @ArrEmb.rec bs₀ r _ _ _
      ?scalar ?anon ?var ?ineq ?objEmpty ?objProp ?obj ?arr ?nil ?present ?absent ?anil ?cons ?skip⟩
  case scalar => exact fun hp heq => .scalar hp heq
  case anon => exact .anon
  case var => exact fun hv hi hl _ ih => .var hv (ineqActive_mono he hi) (he _ _ hl) ih
  case ineq => exact fun h1 h2 h3 h4 h5 h6 h7 => .ineq h1 h2 h3 h4 h5 (he _ _ h6) h7
  case objEmpty => exact .objEmpty
  case objProp => exact fun hk hm _ _ ih₁ ih₂ => .objProp hk hm ih₁ ih₂
  case obj => exact fun _ ih => .obj ih
  case arr => exact fun _ ih => .arr ih
  case nil => exact .nil
  case present => exact fun hk hl _ _ ih ihr => .present hk hl ih ihr
  case absent => exact fun hk hl ho _ ihr => .absent hk hl ho ihr
  case anil => exact .nil
  case cons => exact fun hp _ _ ih ihr => .cons hp ih ihr
  case skip => exact fun ho _ ihr => .skip ho ihr

theorem Sat.mono {bs₀ r r' : Bs} (he : Extends r r') : ∀ {p f}, Sat bs₀ r p f → Sat bs₀ r' p f :=
  (sat_mono he).1
theorem ObjSat.mono {bs₀ r r' : Bs} (he : Extends r r') :
    ∀ {pm fm}, ObjSat bs₀ r pm fm → ObjSat bs₀ r' pm fm :=
  (sat_mono he).2.1
