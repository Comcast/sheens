import Sheens.Proofs.OwnStepH
import Sheens.Proofs.WalkLemmas

/-!
# `walkH`: frame, freshness and refinement of a whole walk (C06)

`walkStrideH` is cut into the stride made up when `Step` returned none (`baseStrideH`) and the
transition to the error node (`errStrideH`), as the text reads (`walkStrideH_eq` is `rfl`); so is the
pure `walkStride` (`walkStride_eq`, `Proofs/WalkLemmas.lean`).  Along `Grows` a stride that is
`StrideOk` keeps its reading (`StrideOk.abs_eq`), which is what lets `walkLoopH_spec` read every
stride through the last heap.
-/

namespace Sheens.C06
open Own

/-! ## strides read through a later heap -/

variable {n0 : Nat} {h h' : Heap} {sd : StrideH}

theorem stateAbs_eq (g : Grows h h') {st : StateH} (hst : OptAlloc h st.bs) :
    st.abs h' = st.abs h := by
  simp only [StateH.abs, g.content hst]

theorem StrideOk.mono {n1 : Nat} (hle : n0 ≤ n1) (g : Grows h h') (hk : StrideOk n1 h sd) :
    StrideOk n0 h' sd := by
  obtain ⟨a, h1, h2, h3, hto⟩ := hk
  refine ⟨a, h1, Nat.le_trans hle h2, g.alloc_of h3, fun t ht => ?_⟩
  obtain ⟨b, hb1, hb2, hb3⟩ := hto t ht
  exact ⟨b, hb1, hb2, g.alloc_of hb3⟩

theorem StrideOk.abs_eq (g : Grows h h') (hk : StrideOk n0 h sd) :
    StrideH.abs h' sd = StrideH.abs h sd := by
  obtain ⟨a, ha, _, haa, hto⟩ := hk
  have h2 : sd.to.map (StateH.abs h') = sd.to.map (StateH.abs h) := by
    cases hsd : sd.to with
    | none => rfl
    | some t =>
      obtain ⟨b, hb, _, hbb⟩ := hto t hsd
      exact congrArg some (stateAbs_eq g (hb ▸ optAlloc_some hbb))
  simp only [StrideH.abs, stateAbs_eq g (ha ▸ optAlloc_some haa), h2]

theorem map_abs_eq (g : Grows h h') {l : List StrideH}
    (hl : ∀ sd ∈ l, StrideOk n0 h sd) : l.map (StrideH.abs h') = l.map (StrideH.abs h) :=
  List.map_congr_left fun sd hsd => (hl sd hsd).abs_eq g

/-- the stride is fresh and reads as `p` -/
def StrideIs (n0 : Nat) (p : Stride) (h : Heap) (sd : StrideH) : Prop :=
  StrideOk n0 h sd ∧ StrideH.abs h sd = p

/-! ## the pieces of `walkStrideH` -/

/-- `stride == nil: stride = NewStride(); stride.From = st.Copy()` -/
def baseStrideH (st : StateH) (o : Option StrideH) (h1 : Heap) : Heap × StrideH :=
  match o with
  | some x => (h1, x)
  | none => let (hh, fa) := copyH h1 st.bs; (hh, stride0H st fa)

/-- the transition to the error node, heap level -/
def errStrideH (s : SpecH) (st : StateH) (e : StepErr) (stride : StrideH) (h2 : Heap) : Heap × StrideH :=
  let (h3, b) := copyH h2 st.bs
  let h4 := writeH (writeH (writeH h3 b "error" (.str (errText s.name e)))
                        b "lastNode" (.str st.node))
                  b "lastBindings" (.obj (copyB (content h3 st.bs)))
  (h4, { stride with to := some { node := "error", bs := some b } })

theorem walkStrideH_eq (s : SpecH) (st : StateH) (pending : Option V) (h : Heap) :
    walkStrideH s st pending h =
      match stepH s st pending h with
      | (h1, out) =>
        match baseStrideH st out.stride h1 with
        | (h2, stride) =>
          match out.err with
          | none => (h2, stride)
          | some e => if st.node == "error" then (h2, stride) else errStrideH s st e stride h2 := rfl

theorem baseStrideH_spec {h1 : Heap} (g : Grows h h1) {st : StateH} (hst : OptAlloc h st.bs)
    {o : Option StrideH} (ho : ∀ sd, o = some sd → StrideOk h.next h1 sd) :
    Ran h1 (baseStrideH st o h1) (StrideIs h.next (baseStride (st.abs h) (o.map (StrideH.abs h1)))) := by
  cases o with
  | some x => exact .ret g.inv ⟨ho x rfl, rfl⟩
  | none =>
    have k : Started h (copyH h1 st.bs).1 st h1.next :=
      ⟨hst, g.content hst ▸ (Made.copy g.inv st.bs).from g⟩
    exact ⟨(Made.copy g.inv st.bs).grows, ⟨_, rfl, k.made.fresh, k.made.exists, fun _ => nofun⟩,
      k.stride_abs (.refl k.made.grows.inv) none none []⟩

theorem errStrideH_spec (s : SpecH) {h2 : Heap} (g : Grows h h2) {st : StateH}
    (hst : OptAlloc h st.bs) (e : StepErr) {stride : StrideH} (hok : StrideOk h.next h2 stride) :
    Ran h2 (errStrideH s st e stride h2) (StrideIs h.next
      { StrideH.abs h2 stride with
          to := some { node := "error", bs := some (errBs s.abs.name (st.abs h) e) } }) := by
  have m0 := Made.copy g.inv st.bs
  have m := ((m0.write "error" (.str (errText s.name e))).write "lastNode" (.str st.node)).write
    "lastBindings" (.obj (copyB (content (copyH h2 st.bs).1 st.bs)))
  rw [(g.trans m0.grows).content hst, g.content hst] at m
  unfold errStrideH
  rw [copyH_eta]
  simp only [(g.trans m0.grows).content hst]
  obtain ⟨a, ha1, ha2, ha3, _⟩ := hok
  refine ⟨m.grows, ⟨a, ha1, ha2, m.grows.alloc_of ha3, ?_⟩, ?_⟩
  · rintro t ⟨⟩
    exact ⟨h2.next, rfl, ha3.1, m.exists⟩
  · simp only [StrideH.abs, Option.map_some, stateAbs_eq m.grows (ha1 ▸ optAlloc_some ha3)]
    simp only [StateH.abs, content_some, m.get]
    rfl

/-- everything about one iteration of `Spec.Walk` at heap level -/
theorem walkStrideH_spec (s : SpecH) (hs : s.Good) (hk : KeepsClean s) (st : StateH)
    (pending : Option V) {h : Heap} (hi : Inv h) (hst : OptAlloc h st.bs) :
    Ran h (walkStrideH s st pending h) (StrideIs h.next (walkStride s.abs (st.abs h) pending)) := by
  obtain ⟨g1, hab, hfr⟩ := stepH_spec s hs hk st pending hi hst
  rw [walkStrideH_eq, walkStride_eq, ← hab]
  generalize stepH s st pending h = x at g1 hfr
  obtain ⟨h1, stride, err⟩ := x
  obtain ⟨g2, hok, habs⟩ := baseStrideH_spec g1 hst hfr
  simp only [StepOutH.abs, ← habs]
  generalize baseStrideH st stride h1 = y at g2 hok
  obtain ⟨h2, sd⟩ := y
  rcases err with _ | e
  · exact ⟨g1.trans g2, hok, rfl⟩
  · rw [show (st.abs h).node = st.node from rfl]
    rcases Bool.eq_false_or_eq_true (st.node == "error") with hn | hn <;>
      simp only [hn, if_true, Bool.false_eq_true, if_false]
    · exact ⟨g1.trans g2, hok, rfl⟩
    · exact (errStrideH_spec s (g1.trans g2) hst e hok).after (g1.trans g2)

theorem strideAbs_consumed (h : Heap) (sd : StrideH) : (StrideH.abs h sd).consumed = sd.consumed := rfl
theorem strideAbs_to (h : Heap) (sd : StrideH) : (StrideH.abs h sd).to = sd.to.map (StateH.abs h) := rfl

/-- every stride is fresh and the walk reads as `p` -/
def WalkIs (n0 : Nat) (p : Walked) (h : Heap) (w : WalkedH) : Prop :=
  (∀ sd ∈ w.strides, StrideOk n0 h sd) ∧ w.abs h = p

theorem walkStop {h1 : Heap} {l : List StrideH} {r : StopReason} {rem : List V}
    (g1 : Grows h h1) (hl : ∀ sd ∈ l, StrideOk n0 h1 sd) :
    Ran h (h1, ({ strides := l.reverse, remaining := rem, stopped := r } : WalkedH))
      (WalkIs n0 { strides := (l.map (StrideH.abs h1)).reverse, remaining := rem, stopped := r }) :=
  ⟨g1, fun x hx => hl x (List.mem_reverse.mp hx), by simp only [WalkedH.abs, List.map_reverse]⟩

theorem walkLoopH_spec (s : SpecH) (hs : s.Good) (hk : KeepsClean s) (bp : State → Bool) (n0 : Nat)
    (i : Nat) (st : StateH) (pendings : List V) (acc : List StrideH) (h : Heap)
    (hi : Inv h) (hst : OptAlloc h st.bs) (hn0 : n0 ≤ h.next) (hacc : ∀ sd ∈ acc, StrideOk n0 h sd) :
    Ran h (walkLoopH s bp i st pendings acc h)
      (WalkIs n0 (walkLoop s.abs bp i (st.abs h) pendings (acc.map (StrideH.abs h)))) := by
  induction i generalizing st pendings acc h with
  | zero => exact walkStop (.refl hi) hacc
  | succ i ih =>
    simp only [walkLoopH, walkLoop]
    cases bp (st.abs h)
    case true => exact walkStop (.refl hi) hacc
    simp only [Bool.false_eq_true, if_false]
    obtain ⟨g1, hok, habs⟩ := walkStrideH_spec s hs hk st (pendingOf pendings) hi hst
    rw [← habs]
    generalize walkStrideH s st (pendingOf pendings) h = x at g1 hok
    obtain ⟨h1, stride⟩ := x
    simp only at g1 hok
    rw [strideAbs_consumed, strideAbs_to]
    have hn1 : n0 ≤ h1.next := Nat.le_trans hn0 g1.mono
    have hacc1 : ∀ x ∈ stride :: acc, StrideOk n0 h1 x :=
      List.forall_mem_cons.mpr ⟨hok.mono hn0 (.refl g1.inv), fun x hx => (hacc x hx).mono (Nat.le_refl _) g1⟩
    rw [← map_abs_eq g1 hacc, ← List.map_cons]
    generalize (if stride.consumed.isSome then pendings.drop 1 else pendings) = pendings'
    cases hsto : stride.to with
    | none =>
      simp only [Option.map_none]
      cases pendings'.isEmpty
      · cases stride.consumed.isNone
        · exact stateAbs_eq g1 hst ▸ (ih st pendings' _ h1 g1.inv (g1.optAlloc hst) hn1 hacc1).after g1
        · exact walkStop g1 hacc1
      · exact walkStop g1 hacc1
    | some to =>
      have m := Made.copy g1.inv to.bs
      simp only [Option.map_some]
      rw [copyH_eta]
      have := (ih { node := to.node, bs := some h1.next } pendings' _ _ m.grows.inv
        (optAlloc_some m.exists) (Nat.le_trans hn1 m.grows.mono)
        (fun x hx => (hacc1 x hx).mono (Nat.le_refl _) m.grows)).after (g1.trans m.grows)
      rw [map_abs_eq m.grows hacc1] at this
      simpa only [StateH.abs, content_some, m.get, stateCopy] using this

end Sheens.C06
