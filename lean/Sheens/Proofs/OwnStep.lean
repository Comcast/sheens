import Sheens.Proofs.OwnHeap

/-!
# One lemma per function of the ownership layer (C06)

For each of `execWrapH`, `guardLoopH`, `candidatesH`, `tryBranchH`, `tryAllH`, `considerH`: run on a
well-formed clean heap with arguments that exist, the outcome is `Ran`: the heap `Grows` out of the
given one, the addresses in the result that are read again exist (not said of a branch's target
state: `stepH` only copies its map), and the pure reading of the result is the pure function
(`Engine.lean`) on the pure reading of the arguments.  The postconditions (`ChoiceIs p`, `ToIs p`, …)
carry that pure value as a parameter.
-/

namespace Sheens.C06
open Own

/-- what is asked of an action or guard: the contract `Respects`, and heaps without duplicate keys stay so -/
structure ActOk (a : Act) : Prop where
  resp  : Respects a
  clean : ∀ h arg, Clean h → Clean (a.run h arg).1

variable {h : Heap}

theorem optAlloc_lt {arg : Option Addr} (harg : OptAlloc h arg) :
    ∀ x, arg = some x → x < h.next := fun x hx => (harg x hx).1

theorem run_grows {a : Act} (ha : ActOk a) (hi : Inv h) {arg : Option Addr}
    (harg : OptAlloc h arg) : Grows h (a.run h arg).1 :=
  ⟨⟨ha.resp.wf h arg hi.1 (optAlloc_lt harg), ha.clean h arg hi.2⟩, ha.resp.mono h arg,
   fun x hx => ha.resp.frame h arg x hx⟩

theorem Grows.contents {h h' : Heap} (hg : Grows h h') {cs : List Addr} (hcs : ∀ c ∈ cs, Alloc h c) :
    contents h' cs = contents h cs :=
  List.map_congr_left fun c hc => by rw [hg.get (hcs c hc).1]

theorem execWrapH_spec {a : Act} (ha : ActOk a) (hi : Inv h) {arg : Option Addr}
    (harg : OptAlloc h arg) :
    Ran h (execWrapH a arg h) fun h' o =>
      (∀ x em, o.exe = some (some x, em) → Alloc h' x) ∧
      absOut h' o = execWrap a.pure (content h arg) := by
  have g1 := run_grows ha hi harg
  have hres := ha.resp.result h arg
  have href := ha.resp.refines h arg hi.1 (optAlloc_lt harg)
  unfold execWrapH execWrap
  generalize a.run h arg = p at g1 hres href
  obtain ⟨h1, exe, err⟩ := p
  simp only [← href, absOut] at g1 hres ⊢
  rcases exe with _ | ⟨_ | r, em⟩
  · exact ⟨g1, nofun, rfl⟩
  · exact ⟨g1, nofun, rfl⟩
  · obtain ⟨hor, hlt, hsome⟩ := hres r em hi.1 harg rfl
    have hget : h1.get r = some _ := content_alloc ⟨hlt, hsome⟩
    generalize (h1.get r).getD [] = c at hget
    have hndc : NoDupKeys c := clean_get g1.inv.2 hget
    have g2 : Grows h (restoreH h1 r (permanentOf (copyB (content h arg)))) := by
      unfold restoreH
      rw [hget]
      rcases hor with hor | hor
      · -- the action handed back the map it was given: the write puts back what was there
        subst hor
        rw [content_some, ← g1.get (harg r rfl).1, hget]
        simp only [copyB, Option.getD, restore_permanentOf_self hndc]
        exact g1.trans (Grows.set_same g1.inv hget)
      · exact Grows.set_fresh g1 hor hlt (nodup_restore hndc)
    refine ⟨g2, ?_, ?_⟩
    · rintro x em' ⟨⟩
      exact ⟨hlt, by rw [get_restoreH]; rfl⟩
    · simp only [Option.map, content_some, get_restoreH, hget, Option.getD]

/-- the chosen map exists and reads as `p` -/
def ChoiceIs (p : Except StepErr (Option Bs)) (h : Heap) (r : Except StepErr (Option Addr)) : Prop :=
  (∀ x, r = .ok (some x) → Alloc h x) ∧ r.map (content h) = p

/-- `Guard.Exec` on one candidate and what `Branch.try` makes of it: an error, the bindings that came
    back, or on to `k` -/
def guardCallH (g : Act) (arg : Option Addr) (k : Heap → Heap × Except StepErr (Option Addr)) (h : Heap) :
    Heap × Except StepErr (Option Addr) :=
  let (h1, out) := execWrapH g arg h
  match out.err with
  | some e => (h1, .error (.guard e))
  | none =>
    match out.exe with
    | some (some b, _) => (h1, .ok (some b))
    | _ => k h1

theorem guardCallH_spec {g : Act} (hg : ActOk g) (hi : Inv h) {arg : Option Addr}
    (harg : OptAlloc h arg) {k : Heap → Heap × Except StepErr (Option Addr)}
    {kp : Except StepErr (Option Bs)} (hk : ∀ h1, Grows h h1 → Ran h1 (k h1) (ChoiceIs kp)) :
    Ran h (guardCallH g arg k h) (ChoiceIs (guardCall g.pure (content h arg) kp)) := by
  obtain ⟨g1, hal, hab⟩ := execWrapH_spec hg hi harg
  unfold guardCallH guardCall
  generalize execWrapH g arg h = x at g1 hal hab
  obtain ⟨h1, exe, err⟩ := x
  simp only [← hab, absOut] at hal ⊢
  rcases err with _ | e
  · rcases exe with _ | ⟨_ | b, em⟩
    · exact (hk h1 g1).after g1
    · exact (hk h1 g1).after g1
    · have hb := hal b em rfl
      simp only [Option.map, content_alloc hb]
      exact ⟨g1, by rintro x ⟨⟩; exact hb, congrArg Except.ok (content_alloc hb)⟩
  · exact ⟨g1, nofun, rfl⟩

theorem guardLoopH_spec {g : Act} (hg : ActOk g) (cs : List Addr) (hi : Inv h)
    (hcs : ∀ c ∈ cs, Alloc h c) :
    Ran h (guardLoopH g cs h) (ChoiceIs (guardLoop g.pure (contents h cs))) := by
  induction cs generalizing h with
  | nil => exact .ret hi ⟨nofun, rfl⟩
  | cons c cs ih =>
    have hc := hcs c List.mem_cons_self
    -- `guardLoopH g (c :: cs)` unfolds to `guardCallH g (some c) (guardLoopH g cs)`, `guardLoop` likewise
    have := guardCallH_spec hg hi (optAlloc_some hc) (k := guardLoopH g cs) fun h1 g1 =>
      g1.contents (fun x hx => hcs x (List.mem_cons_of_mem _ hx)) ▸
        ih g1.inv fun x hx => g1.alloc_of (hcs x (List.mem_cons_of_mem _ hx))
    rw [content_alloc hc] at this
    exact this

theorem candidatesH_spec (b : BranchH) (hi : Inv h) {bs : Option Addr}
    (hbs : OptAlloc h bs) (against : V) :
    Ran h (candidatesH b bs against h) fun h' r =>
      (∀ l, r = .ok l → ∀ oc ∈ l, OptAlloc h' oc) ∧
      r.map (List.map (content h')) = candidates b.abs (content h bs) against := by
  unfold candidatesH candidates
  simp only [BranchH.abs]
  rcases b.pattern with _ | p
  · refine .ret hi ⟨?_, rfl⟩
    rintro l ⟨⟩ oc hoc
    rw [List.mem_singleton.mp hoc]
    exact hbs
  · simp only
    cases hm : matchTop p against (copyB (content h bs)) with
    | err e => exact .ret hi ⟨nofun, rfl⟩
    | diverge => exact .ret hi ⟨nofun, rfl⟩
    | ok l =>
      obtain ⟨g1, hal, hcon⟩ := allocAll_spec l h hi fun x hx =>
        matchF_nodup hm hx (nodup_copyB_content hi bs)
      refine ⟨g1, ?_, ?_⟩
      · rintro l' ⟨⟩ oc hoc
        obtain ⟨x, hx, rfl⟩ := List.mem_map.mp hoc
        exact optAlloc_some (hal x hx)
      · simp only [matchErrOf, Except.map, hcon]

/-- the choice among the candidates (the middle of `Branch.try`), heap level -/
def chooseH (b : BranchH) (bss : List (Option Addr)) (h1 : Heap) : Heap × Except StepErr (Option Addr) :=
  match b.guard with
  | none =>
    match bss with
    | [] => (h1, .ok none)
    | [c] => (h1, .ok c)
    | _ => (h1, .error .tooManyBindingss)
  | some g =>
    match bss with
    | [none] => guardCallH g none (fun h2 => (h2, .ok none)) h1
    | _ => guardLoopH g (bss.filterMap id) h1

theorem tryBranchH_eq (b : BranchH) (bs : Option Addr) (against : V) (h : Heap) :
    tryBranchH b bs against h =
      match candidatesH b bs against h with
      | (h1, .error e) => (h1, .error e)
      | (h1, .ok bss) =>
        match chooseH b bss h1 with
        | (h2, .error e) => (h2, .error e)
        | (h2, .ok none) => (h2, .ok none)
        | (h2, .ok (some c)) =>
          (h2, .ok (some { node := targetOf b.abs ((h2.get c).getD []), bs := some c })) := rfl

theorem filterMap_contents {bss : List (Option Addr)} (hal : ∀ oc ∈ bss, OptAlloc h oc) :
    (bss.map (content h)).filterMap id = contents h (bss.filterMap id) := by
  induction bss with
  | nil => rfl
  | cons oc rest ih =>
    have ih' := ih fun x hx => hal x (List.mem_cons_of_mem _ hx)
    cases oc with
    | none => exact ih'
    | some x =>
      simp only [List.map_cons, content_alloc (hal _ List.mem_cons_self x rfl), List.filterMap_cons, id,
        ih', C06.contents]

theorem chooseH_spec (b : BranchH) (hg : ∀ g, b.guard = some g → ActOk g) (hi : Inv h)
    {bss : List (Option Addr)} (hal : ∀ oc ∈ bss, OptAlloc h oc) :
    Ran h (chooseH b bss h) (ChoiceIs (choose b.abs (bss.map (content h)))) := by
  unfold chooseH choose
  simp only [BranchH.abs]
  rcases hgd : b.guard with _ | g
  · rcases bss with _ | ⟨c, _ | ⟨d, rest⟩⟩
    · exact .ret hi ⟨nofun, rfl⟩
    · exact .ret hi ⟨by rintro x ⟨⟩; exact hal _ List.mem_cons_self x rfl, rfl⟩
    · exact .ret hi ⟨nofun, rfl⟩
  · have hgo := hg g hgd
    have hloop := guardLoopH_spec hgo (bss.filterMap id) hi fun c hc =>
      hal (some c) (by simpa using hc) c rfl
    rw [← filterMap_contents hal] at hloop
    -- which arm the two matches take is decided by the head, and for `none` by the tail
    rcases bss with _ | ⟨_ | x, tl⟩
    · exact hloop
    · rcases tl with _ | ⟨d, rest⟩
      · exact guardCallH_spec hgo hi (optAlloc_none h) fun h1 g1 => .ret g1.inv ⟨nofun, rfl⟩
      · exact hloop
    · rw [List.map_cons, content_alloc (hal _ List.mem_cons_self x rfl)] at hloop ⊢
      exact hloop

/-- the outcome of trying branches reads as `p` -/
abbrev ToIs (p : Except StepErr (Option State)) (h : Heap) (r : Except StepErr (Option StateH)) : Prop :=
  r.map (Option.map (StateH.abs h)) = p

theorem tryBranchH_spec (b : BranchH) (hg : ∀ g, b.guard = some g → ActOk g) (hi : Inv h)
    {bs : Option Addr} (hbs : OptAlloc h bs) (against : V) :
    Ran h (tryBranchH b bs against h) (ToIs (tryBranch b.abs (content h bs) against)) := by
  rw [tryBranchH_eq, tryBranch_eq]
  obtain ⟨g1, hal1, hab1⟩ := candidatesH_spec b hi hbs against
  generalize candidatesH b bs against h = x at g1 hal1 hab1
  obtain ⟨h1, _ | bss⟩ := x <;> simp only [← hab1, Except.map]
  · exact ⟨g1, rfl⟩
  obtain ⟨g2, hal2, hab2⟩ := chooseH_spec b hg g1.inv (hal1 bss rfl)
  generalize chooseH b bss h1 = y at g2 hal2 hab2
  obtain ⟨h2, _ | _ | c⟩ := y <;> simp only [← hab2, Except.map]
  · exact ⟨g1.trans g2, rfl⟩
  · exact ⟨g1.trans g2, rfl⟩
  · have hc := content_alloc (hal2 c rfl)
    simp only [hc]
    exact ⟨g1.trans g2, by simp only [ToIs, Except.map, Option.map, StateH.abs, hc]⟩

theorem tryAllH_spec {bs : Option Addr} {against : V} (brs : List BranchH)
    (hg : ∀ b ∈ brs, ∀ g, b.guard = some g → ActOk g) (hi : Inv h) (hbs : OptAlloc h bs) :
    Ran h (tryAllH bs against brs h) (ToIs (tryAll (content h bs) against (brs.map BranchH.abs))) := by
  induction brs generalizing h with
  | nil => exact .ret hi rfl
  | cons b rest ih =>
    obtain ⟨g1, hab1⟩ := tryBranchH_spec b (hg b List.mem_cons_self) hi hbs against
    simp only [tryAllH, List.map_cons, tryAll, ← hab1]
    generalize tryBranchH b bs against h = x at g1
    obtain ⟨h1, _ | _ | t⟩ := x
    · exact ⟨g1, rfl⟩
    · exact g1.content hbs ▸
        (ih (fun x hx => hg x (List.mem_cons_of_mem _ hx)) g1.inv (g1.optAlloc hbs)).after g1
    · exact ⟨g1, rfl⟩

theorem considerH_spec (b : Option BranchesH)
    (hg : ∀ br, b = some br → ∀ x ∈ br.branches, ∀ g, x.guard = some g → ActOk g)
    (hi : Inv h) {bs : Option Addr} (hbs : OptAlloc h bs) (pending : Option V) :
    Ran h (considerH b bs pending h) fun h' r =>
      (r.1.map (StateH.abs h'), r.2) = consider (b.map BranchesH.abs) (content h bs) pending := by
  unfold considerH consider
  rcases b with _ | br
  · exact .ret hi rfl
  have hall := fun m => tryAllH_spec br.branches (hg br rfl) hi hbs (against := m)
  simp only [Option.map, BranchesH.abs]
  split
  · rcases pending with _ | m
    · exact .ret hi rfl
    · obtain ⟨g1, hab1⟩ := hall m
      simp only [← hab1]
      generalize tryAllH bs m br.branches h = x at g1
      obtain ⟨h1, _ | ot⟩ := x
      · exact ⟨g1, rfl⟩
      · exact ⟨g1, rfl⟩
  · obtain ⟨g1, hab1⟩ := hall (.obj (copyB (content h bs)))
    simp only [← hab1]
    generalize tryAllH bs _ br.branches h = x at g1
    obtain ⟨h1, _ | ot⟩ := x
    · exact ⟨g1, rfl⟩
    · exact ⟨g1, rfl⟩

end Sheens.C06
