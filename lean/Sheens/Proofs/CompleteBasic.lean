import Sheens.MatchSpecC
import Sheens.Proofs.RunSound

/-!
# Completeness of the matcher (C02), part 1: invariants and bookkeeping

`Inv bs`: the current bindings extend the given ones and agree with the assignment `σ`.
`Ok W bs`: every variable of the pattern part still to be processed (`W`) that is already bound, or
occurs twice in it, takes a scalar value under `σ` (the local form of `RepeatScalar`).
`Res bs W r`: what the result `r` reached from `bs` over a pattern part with variables `W` satisfies.
-/

namespace Sheens.Complete

def Scal (σ : Bs) (v : String) : Prop := ∀ x, lookup v σ = some x → isScalarV x = true

structure Inv (bs₀ σ bs : Bs) : Prop where
  ext0 : Extends bs₀ bs
  sub  : Extends bs σ

def Ok (σ : Bs) (W : List String) (bs : Bs) : Prop :=
  ∀ v ∈ W, (lookup v bs ≠ none ∨ 2 ≤ W.count v) → Scal σ v

structure Res (bs₀ σ bs : Bs) (W : List String) (r : Bs) : Prop where
  inv : Inv bs₀ σ r
  ext : Extends bs r
  keys : ∀ v, lookup v r ≠ none → lookup v bs ≠ none ∨ v ∈ W ∨ Scal σ v
  binds : ∀ v ∈ W, isOptVar (.str v) = false → isAnon v = false → lookup v r ≠ none

theorem bound_mono {a b : Bs} {v : String} (he : Extends a b) (h : lookup v a ≠ none) :
    lookup v b ≠ none := by
  cases hl : lookup v a with
  | none => exact absurd hl h
  | some x => rw [he _ _ hl]; simp

section
variable {bs₀ σ bs : Bs} {W W' W1 W2 : List String}

theorem Res.refl_nil (hi : Inv bs₀ σ bs) : Res bs₀ σ bs [] bs :=
  ⟨hi, Extends.refl _, fun _ h => Or.inl h, fun _ h => nomatch h⟩

theorem Res.seq {r1 r2 : Bs} (h1 : Res bs₀ σ bs W1 r1) (h2 : Res bs₀ σ r1 W2 r2) :
    Res bs₀ σ bs (W1 ++ W2) r2 := by
  refine ⟨h2.inv, h1.ext.trans h2.ext, ?_, ?_⟩
  · intro v hv
    rcases h2.keys v hv with h | h | h
    · rcases h1.keys v h with h' | h' | h'
      · exact Or.inl h'
      · exact Or.inr (Or.inl (List.mem_append_left _ h'))
      · exact Or.inr (Or.inr h')
    · exact Or.inr (Or.inl (List.mem_append_right _ h))
    · exact Or.inr (Or.inr h)
  · intro v hv ho ha
    rcases List.mem_append.mp hv with h | h
    · exact bound_mono h2.ext (h1.binds v h ho ha)
    · exact h2.binds v h ho ha

theorem Res.mono {r : Bs} (h : Res bs₀ σ bs W r) (h1 : ∀ v ∈ W, v ∈ W')
    (h2 : ∀ v ∈ W', v ∈ W ∨ isOptVar (.str v) = true) : Res bs₀ σ bs W' r := by
  refine ⟨h.inv, h.ext, fun v hv => (h.keys v hv).imp_right (Or.imp_left (h1 v)), ?_⟩
  intro v hv ho ha
  rcases h2 v hv with h' | h'
  · exact h.binds v h' ho ha
  · rw [h'] at ho; cases ho

theorem Res.perm {r : Bs} (hp : W.Perm W') (h : Res bs₀ σ bs W r) : Res bs₀ σ bs W' r :=
  h.mono (fun _ hv => hp.mem_iff.mp hv) (fun _ hv => Or.inl (hp.mem_iff.mpr hv))

/-- fewer occurrences ask less -/
theorem Ok.mono (h : Ok σ W bs) (hc : ∀ v, W'.count v ≤ W.count v) : Ok σ W' bs := by
  intro v hv hc'
  have hpos : 0 < W.count v := Nat.lt_of_lt_of_le (List.count_pos_iff.mpr hv) (hc v)
  exact h v (List.count_pos_iff.mp hpos) (hc'.imp_right fun h2 => Nat.le_trans h2 (hc v))

theorem Ok.left (h : Ok σ (W1 ++ W2) bs) : Ok σ W1 bs :=
  h.mono fun v => by rw [List.count_append]; exact Nat.le_add_right _ _

theorem Ok.suffix {W1 W2 : List String} {bs : Bs} (h : Ok σ (W1 ++ W2) bs) : Ok σ W2 bs :=
  h.mono fun v => by rw [List.count_append]; exact Nat.le_add_left _ _

theorem Ok.right {r : Bs} (h : Ok σ (W1 ++ W2) bs) (hr : Res bs₀ σ bs W1 r) : Ok σ W2 r := by
  intro v hv hc
  rcases hc with hc | hc
  · rcases hr.keys v hc with h' | h' | h'
    · exact h v (List.mem_append_right _ hv) (Or.inl h')
    · refine h v (List.mem_append_right _ hv) (Or.inr ?_)
      rw [List.count_append]
      exact Nat.add_le_add (List.one_le_count_iff.mpr h') (List.one_le_count_iff.mpr hv)
    · exact h'
  · refine h v (List.mem_append_right _ hv) (Or.inr ?_)
    rw [List.count_append]
    exact Nat.le_trans hc (Nat.le_add_left _ _)

theorem Ok.perm (hp : W.Perm W') (h : Ok σ W bs) : Ok σ W' bs :=
  h.mono fun v => Nat.le_of_eq (hp.count_eq v).symm

/-- what a call on a pattern part with variables `W` starts from -/
structure Pre (bs₀ σ : Bs) (vs W : List String) (bs : Bs) : Prop where
  inv : Inv bs₀ σ bs
  ok : Ok σ W bs
  vars : ∀ v ∈ W, v ∈ vs

variable {vs : List String}

theorem Pre.left (h : Pre bs₀ σ vs (W1 ++ W2) bs) : Pre bs₀ σ vs W1 bs :=
  ⟨h.inv, h.ok.left, fun v hv => h.vars v (List.mem_append_left _ hv)⟩

theorem Pre.suffix (h : Pre bs₀ σ vs (W1 ++ W2) bs) : Pre bs₀ σ vs W2 bs :=
  ⟨h.inv, h.ok.suffix, fun v hv => h.vars v (List.mem_append_right _ hv)⟩

/-- the precondition for the variables `W2` that remain, once the part `W1` has ended in `r` -/
theorem Pre.right {r : Bs} (h : Pre bs₀ σ vs (W1 ++ W2) bs) (hr : Res bs₀ σ bs W1 r) :
    Pre bs₀ σ vs W2 r :=
  ⟨hr.inv, h.ok.right hr, fun v hv => h.vars v (List.mem_append_right _ hv)⟩

theorem Pre.perm (hp : W.Perm W') (h : Pre bs₀ σ vs W bs) : Pre bs₀ σ vs W' bs :=
  ⟨h.inv, h.ok.perm hp, fun v hv => h.vars v (hp.mem_iff.mpr hv)⟩

end

end Sheens.Complete

theorem varsOf_str_var {s : String} (h : isVar s = true) : varsOf (.str s) = [s] := if_pos h

theorem scalarConst_vars {p : V} (hc : isScalarConst p = true) : varsOf p = [] := by
  cases p with
  | str s => exact if_neg (by simpa [isScalarConst] using hc)
  | null | bool _ | num _ => rfl
  | _ => cases hc

theorem varsOfKvs_cons {k : String} {v : V} {rest : List (String × V)} (hk : isVar k = false) :
    varsOfKvs ((k, v) :: rest) = varsOf v ++ varsOfKvs rest := by simp [varsOfKvs, hk]

theorem varsOf_obj_single (k : String) (v : V) :
    varsOf (.obj [(k, v)]) = varsOf (.str k) ++ varsOf v :=
  List.append_nil _

theorem _root_.ObjEmb.keys_nonvar {bs₀ σ : Bs} {pm fm : List (String × V)} (h : ObjEmb bs₀ σ pm fm) :
    ∀ kv ∈ pm, isVar kv.1 = false := by
  induction pm with
  | nil => exact fun _ h => nomatch h
  | cons kv rest ih =>
    cases h with
    | present hk _ _ hr | absent hk _ _ hr => exact List.forall_mem_cons.mpr ⟨hk, ih hr⟩

theorem _root_.ArrEmbX.sub {bs₀ r : Bs} {ps fs L : List V} (h : ArrEmbX bs₀ r ps fs L) :
    ∀ x ∈ L, x ∈ fs := by
  induction ps generalizing fs with
  | nil => cases h; exact fun _ hx => hx
  | cons p ps ih =>
    cases h with
    | cons hp _ hrest => exact fun x hx => hp.sub x (ih hrest x hx)

theorem optVar_str {pv : V} (h : isOptVar pv = true) : ∃ s, pv = .str s ∧ varsOf pv = [s] := by
  cases pv with
  | str s =>
    refine ⟨s, rfl, if_pos ?_⟩
    simp only [isOptVar] at h
    unfold isVar
    split at h
    · next heq => rw [heq]; rfl
    · cases h
  | _ => cases h

theorem optVar_vars {pv : V} (h : isOptVar pv = true) : ∀ v ∈ varsOf pv, isOptVar (.str v) = true := by
  obtain ⟨s, rfl, hs⟩ := optVar_str h
  intro v hv
  rw [hs] at hv
  exact List.mem_singleton.mp hv ▸ h

/-! ## the empty given bindings switch the inequality reading off -/

theorem ineqActive_nil {r : Bs} {v : String} {f : V} : ineqActive [] r v f = false := by
  unfold ineqActive
  split
  · rfl
  · simp [lookup]

theorem varAt_nil {v : String} {f : V} {σ : Bs} (hn : isAnon v = false) (hl : lookup v σ = some f) :
    VarAt [] σ v f :=
  Or.inr (Or.inl ⟨hn, ineqActive_nil, hl⟩)

theorem setLikeList_mem {xs : List V} (h : setLikeList xs = true) : ∀ x ∈ xs, setLike x = true := by
  induction xs with
  | nil => exact fun _ h => nomatch h
  | cons y xs ih =>
    have h := Bool.and_eq_true_iff.mp h
    exact List.forall_mem_cons.mpr ⟨h.1, ih h.2⟩

theorem setLikeKvs_mem {fm : List (String × V)} (h : setLikeKvs fm = true) :
    ∀ kv ∈ fm, setLike kv.2 = true := by
  induction fm with
  | nil => exact fun _ h => nomatch h
  | cons kv fm ih =>
    have h := Bool.and_eq_true_iff.mp h
    exact List.forall_mem_cons.mpr ⟨h.1, ih h.2⟩

/-! ## parallel branch lists: the branch `(bss, mm)` at some position is `(bss, mm) ∈ bsss.zip fxas` -/

theorem _root_.Brs.length_eq {P} {a : List (List Bs)} {f : List (List (Nat × V))} (h : Brs P a f) :
    a.length = f.length := by
  induction h with
  | nil => rfl
  | cons _ _ ih => simp [ih]

theorem _root_.Brs.of_mem_zip {P} {bss mm} {a : List (List Bs)} {f : List (List (Nat × V))}
    (h : Brs P a f) (hm : (bss, mm) ∈ a.zip f) : P bss mm := by
  induction h with
  | nil => cases hm
  | cons hp _ ih =>
    rcases List.mem_cons.mp hm with heq | hm
    · cases heq; exact hp
    · exact ih hm

theorem isEmpty_of_mem_zip {α β} {a : List α} {b : List β} {x : α × β} (h : x ∈ a.zip b) :
    a.isEmpty = false := by
  cases a with
  | nil => cases h
  | cons _ _ => rfl

theorem _root_.Brs.all_right {P} {a : List (List Bs)} {f : List (List (Nat × V))} (h : Brs P a f) :
    ∀ mm ∈ f, ∃ bss, P bss mm := by
  induction h with
  | nil => intro mm hm; cases hm
  | cons hp _ ih =>
    intro mm hm
    rcases List.mem_cons.mp hm with rfl | hm
    · exact ⟨_, hp⟩
    · exact ih mm hm
