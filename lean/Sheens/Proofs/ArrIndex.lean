import Sheens.Proofs.Pick
import Sheens.Proofs.MatchEqs

/-! # Array arm: `getVariable`, the two indexes of the message array, parallel branch lists -/

def isVarV : V → Bool
  | .str s => isVar s
  | _ => false

theorem getVariable_cons_other {x : V} (hx : isVarV x = false) (xs : List V) (v : Option String)
    (acc : List V) : getVariable (x :: xs) v acc = getVariable xs v (x :: acc) := by
  cases x with
  | str t => exact if_neg (ne_true_of_eq_false hx)
  | _ => rfl

/-- `getVariable` sorts the elements by `isVarV`: the others go to the output in their order, the
    variables to the variable slot, where a second one is an error -/
theorem getVariable_ok {l : List V} : ∀ {v vo : Option String} {acc out : List V},
    getVariable l v acc = .ok (vo, out) →
    out = acc.reverse ++ l.filter (fun x => !isVarV x) ∧
      vo.toList.map V.str = v.toList.map V.str ++ l.filter isVarV := by
  induction l with
  | nil =>
    intro v vo acc out h
    cases h
    simp
  | cons x xs ih =>
    intro v vo acc out h
    cases hx : isVarV x with
    | true =>
      cases x with
      | str t =>
        have h := (if_pos hx).symm.trans h
        cases v with
        | none =>
          obtain ⟨h1, h2⟩ := ih h
          simp [hx, h1, h2]
        | some s =>
          dsimp only at h
          split at h <;> cases h
      | _ => cases hx
    | false =>
      rw [getVariable_cons_other hx] at h
      obtain ⟨h1, h2⟩ := ih h
      simp [hx, h1, h2]

/-- `getVariable` as the matcher calls it: at most one variable, at any place of `ps` -/
theorem getVariable_spec {ps xs : List V} {vo : Option String}
    (h : getVariable ps none [] = .ok (vo, xs)) :
    (∀ x ∈ xs, isVarV x = false) ∧
    match vo with
    | none => xs = ps
    | some s => isVar s = true ∧ ps.Perm (.str s :: xs) := by
  obtain ⟨rfl, hv⟩ := getVariable_ok h
  refine ⟨fun x hx => by simpa using (List.mem_filter.mp hx).2, ?_⟩
  have hv : ps.filter isVarV = vo.toList.map V.str := hv.symm
  cases vo with
  | none =>
    exact List.filter_eq_self.mpr fun x hx => by simpa using List.filter_eq_nil_iff.mp hv x hx
  | some s =>
    have hs : V.str s ∈ ps.filter isVarV := hv ▸ List.mem_singleton_self _
    have hperm := (List.filter_append_perm isVarV ps).symm
    rw [hv] at hperm
    exact ⟨(List.mem_filter.mp hs).2, hperm⟩

theorem varsOfList_flatMap (xs : List V) : varsOfList xs = xs.flatMap varsOf := by
  induction xs with
  | nil => rfl
  | cons x xs ih => simp only [varsOfList, List.flatMap_cons, ih]

theorem varsOf_sub_list {x : V} {ps : List V} (hx : x ∈ ps) : varsOf x ⊆ varsOfList ps :=
  fun _ hk => varsOfList_flatMap ps ▸ List.mem_flatMap.mpr ⟨x, hx, hk⟩

theorem varsOfList_perm {xs ys : List V} (h : xs.Perm ys) : (varsOfList xs).Perm (varsOfList ys) := by
  rw [varsOfList_flatMap, varsOfList_flatMap]
  exact h.flatMap_right _

theorem scalar_toV {x : V} {sc : Scalar} (h : x.scalar? = some sc) : x = sc.toV := by
  cases x <;> cases h <;> rfl

theorem scalar_const {x : V} {sc : Scalar} (h : x.scalar? = some sc) (hv : isVarV x = false) :
    isScalarConst x = true := by
  cases x with
  | str s => simp [isScalarConst, show isVar s = false from hv]
  | null | bool _ | num _ => rfl
  | _ => cases h

/-- the facts still available to a branch -/
def remOf (mm : List (Nat × V)) (fxs : List Scalar) : List V :=
  mm.map (·.2) ++ fxs.map Scalar.toV

/-- the indexes of a branch's structured facts are pairwise distinct -/
abbrev IdxNodup (mm : List (Nat × V)) : Prop := mm.Pairwise (fun a b => a.1 ≠ b.1)

theorem split_of_mem {mm : List (Nat × V)} {j : Nat} {fact : V} (hn : IdxNodup mm)
    (hm : (j, fact) ∈ mm) :
    ∃ a b, mm = a ++ (j, fact) :: b ∧ mm.filter (fun e => e.1 != j) = a ++ b := by
  obtain ⟨a, b, rfl⟩ := List.append_of_mem hm
  obtain ⟨_, hb, hab⟩ := List.pairwise_append.mp hn
  refine ⟨a, b, rfl, ?_⟩
  have ha : a.filter (fun e => e.1 != j) = a :=
    List.filter_eq_self.mpr fun e he => by simpa using hab e he _ List.mem_cons_self
  have hb : b.filter (fun e => e.1 != j) = b :=
    List.filter_eq_self.mpr fun e he => by simpa using Ne.symm ((List.pairwise_cons.mp hb).1 e he)
  simp [ha, hb]

theorem idxNodup_remove {x : Nat × V} {b : List (Nat × V)} (a : List (Nat × V))
    (h : IdxNodup (a ++ x :: b)) : IdxNodup (a ++ b) :=
  h.sublist (List.Sublist.append_left (List.sublist_cons_self x b) a)

theorem indexStruct_nodup {fa : List V} : ∀ {i : Nat}, IdxNodup (indexStruct fa i) := by
  induction fa with
  | nil => exact List.Pairwise.nil
  | cons x fa ih =>
    intro i
    simp only [indexStruct]
    split
    · exact ih
    · exact List.pairwise_cons.mpr
        ⟨fun e he => by have := (indexStruct_mem he).1; simp only; omega, ih⟩

/-- structured elements and de-duplicated scalars are distinct elements of the message array -/
theorem index_pickAll (fa : List V) : ∀ (acc : List Scalar) (i : Nat) (X L : List V),
    PickAll (X ++ acc.reverse.map Scalar.toV) L →
    PickAll ((X ++ (indexStruct fa i).map (·.2)) ++ (indexScalars fa acc).map Scalar.toV)
      (L ++ fa) := by
  induction fa with
  | nil =>
    intro acc i X L h
    simpa [indexStruct, indexScalars] using h
  | cons x fa ih =>
    intro acc i X L h
    rw [List.append_cons]
    simp only [indexStruct, indexScalars]
    cases hsc : x.scalar? with
    | some sc =>
      simp only
      split
      · exact ih acc (i+1) X (L ++ [x]) (h.weaken (Pick.snoc L x))
      · refine ih (sc :: acc) (i+1) X (L ++ [x]) ?_
        have h0 : PickAll ((X ++ acc.reverse.map Scalar.toV) ++ []) L := by simpa using h
        have := h0.insert (y := x) (Pick.snoc L x)
        rw [scalar_toV hsc] at this ⊢
        simpa using this
    | none =>
      simp only
      have := h.insert (y := x) (Pick.snoc L x)
      have h2 := ih acc (i+1) (X ++ [x]) (L ++ [x]) (by simpa using this)
      simpa using h2

theorem index_pickAll₀ (fa : List V) :
    PickAll (remOf (indexStruct fa 0) (indexScalars fa [])) fa := by
  simpa [remOf] using index_pickAll fa [] 0 [] [] (by simpa using PickAll.nil)

theorem indexScalars_good {fa : List V} (hfa : goodList fa = true) :
    ∀ sc ∈ indexScalars fa [], sc.toV.good = true :=
  fun _ hsc => goodList_mem hfa _
    ((index_pickAll₀ fa).mem (List.mem_append_right _ (List.mem_map_of_mem hsc)))

/-- parallel lists of branches -/
inductive Brs (P : List Bs → List (Nat × V) → Prop) :
    List (List Bs) → List (List (Nat × V)) → Prop
  | nil : Brs P [] []
  | cons : P bss mm → Brs P bsss fxas → Brs P (bss :: bsss) (mm :: fxas)

theorem Brs.append {P a a' f f'} (h : Brs P a f) (h' : Brs P a' f') :
    Brs P (a ++ a') (f ++ f') := by
  induction h with
  | nil => exact h'
  | cons hp _ ih => exact Brs.cons hp ih

theorem Brs.map_right {P Q : List Bs → List (Nat × V) → Prop} {a f}
    (g : List (Nat × V) → List (Nat × V)) (hpq : ∀ bss mm, P bss mm → Q bss (g mm))
    (h : Brs P a f) : Brs Q a (f.map g) := by
  induction h with
  | nil => exact Brs.nil
  | cons hp _ ih => exact Brs.cons (hpq _ _ hp) ih

theorem Brs.imp {P Q : List Bs → List (Nat × V) → Prop} {a f} (hpq : ∀ bss mm, P bss mm → Q bss mm)
    (h : Brs P a f) : Brs Q a f :=
  f.map_id ▸ h.map_right id hpq

theorem Brs.mem {P a f bss} (h : Brs P a f) (hm : bss ∈ a) : ∃ mm, P bss mm := by
  induction h with
  | nil => cases hm
  | cons hp _ ih =>
    rcases List.mem_cons.mp hm with rfl | hm
    · exact ⟨_, hp⟩
    · exact ih hm
