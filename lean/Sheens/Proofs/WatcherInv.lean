import Sheens.Watcher

/-!
# The watcher / cancel protocol (`Sheens/Watcher.lean`): an inductive invariant, what a result keeps,
and when each step is enabled
-/

namespace Watcher

/-- the result flag of a main goroutine that is past `RunProgram` -/
def MainPc.result : MainPc → Option Bool
  | .running => none
  | .returned i | .cancelled i | .done i => some i

structure Inv (t : Bool) (s : St) : Prop where
  /-- `cancelled` is set exactly when the main goroutine is past its `cancel()` call -/
  canc : s.cancelled = true ↔ ∃ i, s.main = .cancelled i ∨ s.main = .done i
  /-- an interrupt is pending exactly when the watcher delivered it and exited -/
  pend : s.pending = true ↔ s.watch = .gone
  /-- the watcher left `waiting` only because one of the two contexts was done -/
  woke : s.watch = .waiting ∨ s.parentDone = true ∨ s.cancelled = true
  /-- an interrupted result implies that an interrupt is pending -/
  intr : s.main.result = some true → s.pending = true
  /-- a script that does not terminate by itself leaves `running` only as interrupted -/
  term : s.main.result = some false → t = true

theorem Inv.init (t e : Bool) : Inv t (St.init e) :=
  ⟨by simp [St.init], by simp [St.init], .inl rfl, nofun, nofun⟩

/-- a property kept by every step holds along every run -/
theorem run_keeps {t : Bool} {P : St → Prop} (hP : ∀ {s s' a}, P s → step t s a = some s' → P s')
    {tr : List Act} {s s' : St} (h : P s) (hr : run t s tr = some s') : P s' := by
  induction tr generalizing s with
  | nil => cases hr; exact h
  | cons a as ih =>
    rw [run] at hr
    split at hr
    next s1 hs => exact ih (hP h hs) hr
    next => cases hr

theorem Inv.step {t : Bool} {s s' : St} {a : Act} (h : Inv t s) (hs : step t s a = some s') :
    Inv t s' := by
  obtain ⟨m, w, pd, c, p⟩ := s
  obtain ⟨h1, h2, h3, h4, h5⟩ := h
  simp only at h1 h2 h3 h4 h5
  cases a <;> dsimp only [Watcher.step] at hs
  case parentDone => cases hs; exact ⟨h1, h2, h3.imp_right fun _ => .inl rfl, h4, h5⟩
  case wake =>
    obtain ⟨hg, hs⟩ := Option.ite_none_right_eq_some.mp hs
    cases hs
    simp only [Bool.and_eq_true, beq_iff_eq, Bool.or_eq_true] at hg
    obtain ⟨rfl, hg⟩ := hg
    exact ⟨h1, by simpa using h2, .inr hg, h4, h5⟩
  case interrupt =>
    obtain ⟨hg, hs⟩ := Option.ite_none_right_eq_some.mp hs
    cases hs
    obtain rfl : w = .woke := by simpa using hg
    exact ⟨h1, by simp, .inr (h3.resolve_left nofun), fun _ => rfl, h5⟩
  case finish =>
    obtain ⟨hg, hs⟩ := Option.ite_none_right_eq_some.mp hs
    cases hs
    simp only [Bool.and_eq_true, beq_iff_eq] at hg
    obtain ⟨rfl, hg⟩ := hg
    exact ⟨by simpa using h1, h2, h3, nofun, fun _ => hg⟩
  case stop =>
    obtain ⟨hg, hs⟩ := Option.ite_none_right_eq_some.mp hs
    cases hs
    simp only [Bool.and_eq_true, beq_iff_eq] at hg
    obtain ⟨rfl, hg⟩ := hg
    exact ⟨by simpa using h1, h2, h3, fun _ => hg, nofun⟩
  case cancel =>
    split at hs <;> cases hs
    exact ⟨by simp, h2, .inr (.inr rfl), h4, h5⟩
  case ret =>
    split at hs <;> cases hs
    exact ⟨by simpa using h1, h2, h3, h4, h5⟩

/-! ## the second invariant: a result, once set, stays -/

/-- only `finish` and `stop` (from `running`) set the result; `cancel` and `ret` carry it along -/
theorem result_step {t : Bool} {s s' : St} {a : Act} {i : Bool} (h : s.main.result = some i)
    (hs : step t s a = some s') : s'.main.result = some i := by
  obtain ⟨m, w, pd, c, p⟩ := s
  cases a <;> dsimp only [Watcher.step] at hs
  case parentDone => cases hs; exact h
  case wake | interrupt =>
    obtain ⟨-, hs⟩ := Option.ite_none_right_eq_some.mp hs
    cases hs; exact h
  case finish | stop =>
    obtain ⟨hg, -⟩ := Option.ite_none_right_eq_some.mp hs
    simp only [Bool.and_eq_true, beq_iff_eq] at hg
    obtain ⟨rfl, -⟩ := hg
    cases h
  case cancel | ret => split at hs <;> cases hs; exact h

/-! ## when a step is enabled -/

theorem enabled_wake (t : Bool) (s : St) :
    enabled t s .wake = (s.watch == .waiting && (s.parentDone || s.cancelled)) := by
  simp only [enabled, step]; split <;> simp [*]

theorem enabled_interrupt (t : Bool) (s : St) : enabled t s .interrupt = (s.watch == .woke) := by
  simp only [enabled, step]; split <;> simp [*]

theorem enabled_finish (t : Bool) (s : St) : enabled t s .finish = (s.main == .running && t) := by
  simp only [enabled, step]; split <;> simp [*]

theorem enabled_stop (t : Bool) (s : St) : enabled t s .stop = (s.main == .running && s.pending) := by
  simp only [enabled, step]; split <;> simp [*]

theorem enabled_cancel {t : Bool} {s : St} {i : Bool} (h : s.main = .returned i) :
    enabled t s .cancel = true := by
  simp only [enabled, step, h]; rfl

theorem enabled_ret {t : Bool} {s : St} {i : Bool} (h : s.main = .cancelled i) :
    enabled t s .ret = true := by
  simp only [enabled, step, h]; rfl

theorem quiescent_iff {t : Bool} {s : St} : quiescent t s = true ↔
    enabled t s .wake = false ∧ enabled t s .interrupt = false ∧ enabled t s .finish = false ∧
    enabled t s .stop = false ∧ enabled t s .cancel = false ∧ enabled t s .ret = false := by
  simp [quiescent, internal]

end Watcher
