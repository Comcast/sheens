import Sheens.Proofs.Fuel
import Sheens.Proofs.RunOf

/-!
# The matcher terminates on every input

"Terminates" is `∃ n, g n ≠ diverge`: by fuel monotonicity (`Fuel.lean`) the result is then the same
at every larger fuel.  A caller of two callees that halt at `n1` and `n2` is run at `max n1 n2 + 1`,
where each callee has its value at `n1`, `n2` (`matchWith_le` and the like).

`TermMsg f`: the matcher terminates on the message `f` for **all** patterns and bindings.  The
list-traversing functions terminate if the matcher terminates on the parts of the message they hand
down (`term_with … term_loop`); the arms give `termMsg_core`: `TermMsg` of the parts implies
`TermMsg` of the whole, and `termMsg_all` is the recursion on the message.
-/

namespace Sheens.Total

def TermMsg (f : V) : Prop := ∀ p bs, ∃ n, matchF n p f bs ≠ .diverge

theorem term_with {f : V} (hf : TermMsg f) (p : V) :
    ∀ bss, ∃ n, matchWith n bss p f ≠ .diverge := by
  intro bss
  induction bss with
  | nil => exact ⟨1, nofun⟩
  | cons bs rest ih =>
    obtain ⟨n1, h1⟩ := hf p bs
    obtain ⟨n2, h2⟩ := ih
    refine ⟨max n1 n2 + 1, ?_⟩
    rw [matchWith_cons, matchF_le (Nat.le_max_left ..) h1, matchWith_le (Nat.le_max_right ..) h2]
    split
    · split
      · nofun
      · exact h2
    · exact h1

theorem term_mapcat {fm : List (String × V)} (hfm : ∀ k fv, lookup k fm = some fv → TermMsg fv) :
    ∀ pm bss, ∃ n, mapcat n bss pm fm ≠ .diverge := by
  intro pm
  induction pm with
  | nil => exact fun bss => ⟨1, nofun⟩
  | cons kv rest ih =>
    intro bss
    obtain ⟨k, v⟩ := kv
    by_cases hk : isVar k = true
    · exact ⟨1, by simp [mapcat_cons, hk]⟩
    · cases hl : lookup k fm with
      | none =>
        by_cases ho : isOptVar v = true
        · obtain ⟨n, hn⟩ := ih bss
          exact ⟨n + 1, by simpa [mapcat_cons, hk, hl, ho] using hn⟩
        · exact ⟨1, by simp [mapcat_cons, hk, hl, ho]⟩
      | some fv =>
        obtain ⟨n1, h1⟩ := term_with (hfm k fv hl) v bss
        cases hW : matchWith n1 bss v fv with
        | diverge => exact absurd hW h1
        | err e => exact ⟨n1 + 1, by simp [mapcat_cons, hk, hl, hW]⟩
        | ok acc =>
          cases acc with
          | nil => exact ⟨n1 + 1, by simp [mapcat_cons, hk, hl, hW]⟩
          | cons a as =>
            obtain ⟨n2, h2⟩ := ih (a :: as)
            refine ⟨max n1 n2 + 1, ?_⟩
            simp only [mapcat_cons, if_neg hk, hl, matchWith_le (Nat.le_max_left ..) h1, hW,
              mapcat_le (Nat.le_max_right ..) h2]
            exact h2

theorem term_gather (bss : List Bs) (k : String) (v : V) :
    ∀ fm : List (String × V), (∀ kv ∈ fm, TermMsg (.str kv.1) ∧ TermMsg kv.2) →
      ∃ n, propGather n bss k v fm ≠ .diverge := by
  intro fm
  induction fm with
  | nil => exact fun _ => ⟨1, nofun⟩
  | cons kv rest ih =>
    intro hfm
    obtain ⟨fk, fv⟩ := kv
    obtain ⟨hk, hv⟩ := hfm (fk, fv) List.mem_cons_self
    obtain ⟨n3, h3⟩ := ih (fun kv hkv => hfm kv (List.mem_cons_of_mem _ hkv))
    obtain ⟨n1, h1⟩ := term_with hk (.str k) bss
    cases hW : matchWith n1 bss (.str k) (.str fk) with
    | diverge => exact absurd hW h1
    | err e => exact ⟨n1 + 1, by simp [propGather_cons, hW]⟩
    | ok ext =>
      have hG : ∀ ext2 m, n3 ≤ m → (match propGather m bss k v rest with
          | .ok more => MRes.ok (ext2 ++ more) | e => e) ≠ .diverge := by
        intro ext2 m hm; rw [propGather_le hm h3]; split
        · nofun
        · exact h3
      cases he : ext.isEmpty with
      | true =>
        refine ⟨max n1 n3 + 1, ?_⟩
        simp only [propGather_cons, matchWith_le (Nat.le_max_left ..) h1, hW, he, if_true]
        exact hG _ _ (Nat.le_max_right ..)
      | false =>
        obtain ⟨n2, h2⟩ := term_with hv v ext
        refine ⟨max n1 (max n2 n3) + 1, ?_⟩
        simp only [propGather_cons, matchWith_le (Nat.le_max_left ..) h1, hW, he,
          Bool.false_eq_true, if_false]
        rw [matchWith_le (Nat.le_trans (Nat.le_max_left ..) (Nat.le_max_right ..)) h2]
        split
        · exact hG _ _ (Nat.le_trans (Nat.le_max_right ..) (Nat.le_max_right ..))
        · exact h2

/-- the branches run in parallel, each offering only facts the matcher terminates on -/
abbrev AllOK : List (List Bs) → List (List (Nat × V)) → Prop :=
  Brs fun _ mm => ∀ e ∈ mm, TermMsg e.2

theorem term_one (bss : List Bs) (pat : V) (mm : List (Nat × V)) :
    ∀ todo : List (Nat × V), (∀ e ∈ todo, TermMsg e.2) → ∃ n, arrayOne n bss pat mm todo ≠ dvg := by
  intro todo
  induction todo with
  | nil => exact fun _ => ⟨1, nofun⟩
  | cons jf todo ih =>
    intro hok
    obtain ⟨j, fact⟩ := jf
    obtain ⟨n1, h1⟩ := term_with (hok (j, fact) List.mem_cons_self) pat bss
    obtain ⟨n2, h2⟩ := ih (fun e he => hok e (List.mem_cons_of_mem _ he))
    refine ⟨max n1 n2 + 1, ?_⟩
    rw [arrayOne_cons, matchWith_le (Nat.le_max_left ..) h1, arrayOne_le (Nat.le_max_right ..) h2]
    split
    · split
      · next hO => exact hO ▸ h2
      · split <;> nofun
    · exact mt Sum.inl.inj h1

theorem term_cat (pat : V) {bsss fxas} (hok : AllOK bsss fxas) :
    ∃ n, arraycat n bsss pat fxas ≠ dvg := by
  induction hok with
  | nil => exact ⟨1, nofun⟩
  | @cons bss mm bsss fxas hmm _ ih =>
    obtain ⟨n1, h1⟩ := term_one bss pat mm mm hmm
    obtain ⟨n2, h2⟩ := ih
    refine ⟨max n1 n2 + 1, ?_⟩
    rw [arraycat_cons, arrayOne_le (Nat.le_max_left ..) h1, arraycat_le (Nat.le_max_right ..) h2]
    split
    · next hO => exact hO ▸ h1
    · split
      · next hC => exact hC ▸ h2
      · nofun

/-- `arraycat` hands on facts that it was offered (`arraycat_run`) -/
theorem AllOK.cat {n bsss a pat fxas f} (hok : AllOK bsss fxas)
    (h : arraycat n bsss pat fxas = .inr (a, f)) : AllOK a f :=
  (arraycat_run hok h).imp <| by
    rintro _ _ ⟨_, _, hmm, _, _, _, rfl, _⟩ e he
    exact hmm e (List.mem_filter.mp he).1

theorem term_loop : ∀ xs fxs {bsss fxas} e,
    AllOK bsss fxas → ∃ n, loopXs n xs fxs bsss fxas e ≠ dvg := by
  intro xs
  induction xs with
  | nil => exact fun _ _ _ _ _ => ⟨1, nofun⟩
  | cons x xs ih =>
    intro fxs bsss fxas e hok
    cases hs : x.scalar? with
    | some sc =>
      by_cases hc : fxs.contains sc = true
      · obtain ⟨n, hn⟩ := ih (fxs.erase sc) e hok
        exact ⟨n + 1, by simpa only [loopXs_cons, hs, hc, if_true] using hn⟩
      · exact ⟨1, by simp only [loopXs_cons, hs, if_neg hc]; nofun⟩
    | none =>
      cases e with
      | true => exact ⟨1, by simp [loopXs_cons, hs]⟩
      | false =>
        obtain ⟨n1, h1⟩ := term_cat x hok
        cases hC : arraycat n1 bsss x fxas with
        | inl r =>
          refine ⟨n1 + 1, ?_⟩
          simp only [loopXs_cons, hs, hC, Bool.false_eq_true, if_false]
          exact mt Sum.inl.inj fun hr => h1 (by rw [hC, hr])
        | inr y =>
          obtain ⟨bsss', fxas'⟩ := y
          cases hb : bsss'.isEmpty with
          | true => exact ⟨n1 + 1, by simp [loopXs_cons, hs, hC, hb]⟩
          | false =>
            obtain ⟨n2, h2⟩ := ih fxs false (hok.cat hC)
            refine ⟨max n1 n2 + 1, ?_⟩
            simp only [loopXs_cons, hs, arraycat_le (Nat.le_max_left ..) h1, hC, hb,
              loopXs_le (Nat.le_max_right ..) h2, Bool.false_eq_true, if_false]
            exact h2

/-- what `matchObj` needs of the message -/
def ObjParts (g : V) : Prop := ∀ fm, g = .obj fm → ∀ kv ∈ fm, TermMsg (.str kv.1) ∧ TermMsg kv.2
/-- what `matchArr` needs of the message -/
def ArrParts (g : V) : Prop :=
  ∀ fa, g = .arr fa → (∀ x ∈ fa, TermMsg x) ∧ (∀ s : Scalar, TermMsg s.toV)

theorem term_obj {g : V} (hg : ObjParts g) (pm : List (String × V)) (bs : Bs) :
    ∃ n, matchObj n pm g bs ≠ .diverge := by
  rcases matchObj_other pm g bs with ⟨fm, rfl⟩ | hc
  · rcases matchObj_arms pm fm bs with ⟨_, hc⟩ | ⟨_, hc⟩ | ⟨k, v, _, _, ht⟩ | ⟨_, _, ht⟩
    · exact ⟨1, by rw [hc]; nofun⟩
    · exact ⟨1, by rw [hc]; nofun⟩
    · obtain ⟨n, hn⟩ := term_gather [bs] k v fm (hg fm rfl)
      exact ⟨n + 1, by rwa [ht]⟩
    · obtain ⟨n, hn⟩ := term_mapcat (fun k fv hl => (hg fm rfl (k, fv) (mem_of_lookup hl)).2) pm [bs]
      exact ⟨n + 1, by rwa [ht]⟩
  · exact ⟨1, by rw [hc]; nofun⟩

theorem term_arr {g : V} (hg : ArrParts g) (ps : List V) (bs : Bs) :
    ∃ n, matchArr n ps g bs ≠ .diverge := by
  cases hgv : getVariable ps none [] with
  | error e => exact ⟨1, by simp [matchArr_succ, hgv]⟩
  | ok vx =>
    obtain ⟨v, xs⟩ := vx
    cases g with
    | arr fa =>
      obtain ⟨hel, hsc⟩ := hg fa rfl
      have hok0 : AllOK [[bs]] [indexStruct fa 0] :=
        .cons (fun e he => hel _ (indexStruct_mem he).2) .nil
      obtain ⟨n1, h1⟩ := term_loop xs (indexScalars fa []) (indexStruct fa 0).isEmpty hok0
      cases hL : loopXs n1 xs (indexScalars fa []) [[bs]] [indexStruct fa 0]
          (indexStruct fa 0).isEmpty with
      | inl r =>
        refine ⟨n1 + 1, ?_⟩
        simp only [matchArr_succ, hgv, hL]
        exact fun hr => h1 (by rw [hL, hr])
      | inr y =>
        obtain ⟨fxs', bsss, fxas⟩ := y
        cases v with
        | none => exact ⟨n1 + 1, by simp [matchArr_succ, hgv, hL]⟩
        | some vn =>
          have hok2 : AllOK bsss (fxas.map (fun m => m ++ leftovers fxs' fa.length)) :=
            (loopXs_run hok0 hL).map_right _ <| by
              rintro _ _ ⟨_, _, hmm, hres⟩ e he
              rcases List.mem_append.mp he with he | he
              · exact hmm e (hres.facts e he)
              · obtain ⟨s, _, hs⟩ := leftovers_mem he
                exact hs ▸ hsc s
          obtain ⟨n2, h2⟩ := term_cat (.str vn) hok2
          refine ⟨max n1 n2 + 1, ?_⟩
          simp only [matchArr_succ, hgv, loopXs_le (Nat.le_max_left ..) h1, hL,
            arraycat_le (Nat.le_max_right ..) h2]
          split
          · next hC => exact fun hr => h2 (by rw [hC, hr])
          · split <;> nofun
    | _ => exact ⟨1, by simp [matchArr_succ, hgv]⟩

theorem matchNull_ne (f : V) (bs : Bs) : matchNull f bs ≠ .diverge := by
  unfold matchNull; split <;> nofun
theorem matchBool_ne (a : Bool) (f : V) (bs : Bs) : matchBool a f bs ≠ .diverge := by
  unfold matchBool; split
  · split <;> nofun
  · nofun
theorem matchNum_ne (a : Rat) (f : V) (bs : Bs) : matchNum a f bs ≠ .diverge := by
  unfold matchNum; split
  · split <;> nofun
  · nofun

theorem fudge_idem (f : V) : fudge (fudge f) = fudge f := by
  cases f <;> rfl

theorem fudge_eq_str {b : V} {s : String} (h : fudge b = .str s) : b = .str s := by
  cases b with
  | str t => exact h
  | _ => cases h

/-! the arms of `matchF` on a message whose parts the matcher terminates on -/
section
variable {f : V} (ho : ObjParts (fudge f)) (ha : ArrParts (fudge f))
include ho ha

/-- `matchF`, given the string arm -/
theorem term_F_of_str {p : V} {bs : Bs}
    (hstr : ∀ s, fudge p = .str s → ∃ n, matchStr n s (fudge f) bs ≠ .diverge) :
    ∃ n, matchF n p f bs ≠ .diverge := by
  suffices h : ∃ n, matchF (n+1) p f bs ≠ .diverge from h.imp' _ fun _ h => h
  simp only [matchF_succ]
  cases hq : fudge p with
  | null => exact ⟨0, matchNull_ne _ _⟩
  | bool a => exact ⟨0, matchBool_ne _ _ _⟩
  | num a => exact ⟨0, matchNum_ne _ _ _⟩
  | str s => exact hstr s hq
  | obj pm => exact term_obj ho pm bs
  | arr ps => exact term_arr ha ps bs
  | _ => exact ⟨0, nofun⟩

/-- a pattern that is not a variable: the next step is terminal or descends into the message -/
theorem term_nonvar {p : V} {bs : Bs} (hp : ∀ s, p = .str s → isVar s = false) :
    ∃ n, matchF n p f bs ≠ .diverge :=
  term_F_of_str ho ha fun s hs => by
    rcases matchStr_arm s (fudge f) bs with ⟨rs, hc⟩ | ⟨b, hv, _⟩
    · exact ⟨1, by rw [hc]; nofun⟩
    · rw [hp s (fudge_eq_str hs)] at hv; cases hv

theorem term_bound (b : V) (bs : Bs) : ∃ n, matchBound n b f bs ≠ .diverge := by
  rcases matchBound_arm b f bs with ⟨rs, hc⟩ | ⟨hb, ht⟩
  · exact ⟨1, by rw [hc]; nofun⟩
  · obtain ⟨n, hn⟩ := term_nonvar (bs := bs) ho ha hb
    exact ⟨n + 1, by rwa [ht]⟩

theorem term_str (s : String) (bs : Bs) : ∃ n, matchStr n s f bs ≠ .diverge := by
  rcases matchStr_arm s f bs with ⟨rs, hc⟩ | ⟨b, _, _, ht⟩
  · exact ⟨1, by rw [hc]; nofun⟩
  · obtain ⟨n, hn⟩ := term_bound ho ha b bs
    exact ⟨n + 1, by rwa [ht]⟩

theorem termMsg_core : TermMsg f := fun _ bs =>
  term_F_of_str ho ha fun s _ => term_str ((fudge_idem f).symm ▸ ho) ((fudge_idem f).symm ▸ ha) s bs

end

theorem termMsg_scalar (s : Scalar) : TermMsg s.toV := by
  cases s <;> exact termMsg_core (fun _ h => nomatch h) (fun _ h => nomatch h)

theorem termMsg_all : ∀ f : V, TermMsg f
  | .arr xs =>
    termMsg_core (fun _ h => nomatch h)
      (fun _ h => by cases h; exact ⟨fun x _ => termMsg_all x, termMsg_scalar⟩)
  | .obj kvs =>
    termMsg_core
      (fun _ h => by cases h; exact fun kv _ => ⟨termMsg_scalar (.str _), termMsg_all kv.2⟩)
      (fun _ h => nomatch h)
  | .null | .bool _ | .num _ | .str _ | .int _ | .bobj _ | .other _ =>
    termMsg_core (fun _ h => nomatch h) (fun _ h => nomatch h)
termination_by f => sizeOf f
decreasing_by
  · have := List.sizeOf_lt_of_mem ‹x ∈ xs›
    simp only [V.arr.sizeOf_spec]; omega
  · have := List.sizeOf_lt_of_mem ‹kv ∈ kvs›
    have : sizeOf kv = 1 + sizeOf kv.1 + sizeOf kv.2 := by cases kv; rfl
    simp only [V.obj.sizeOf_spec]; omega

end Sheens.Total
