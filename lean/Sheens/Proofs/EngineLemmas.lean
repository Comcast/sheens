import Sheens.ES

/-!
# The engine's own lemmas

`lookup`/`insertB`; `execWrap`; every way a step can go (`step_cases`, with `stepRest_eq` and
`step_action`); `firstHit`, the search that `tryAll` and `guardLoop` both make; where the bindings of
a target state come from (`consider_some`).
-/

theorem lookup_insertB (k k' : String) (v : V) (bs : Bs) :
    lookup k (insertB k' v bs) = if k = k' then some v else lookup k bs := by
  induction bs with
  | nil => rfl
  | cons kv rest ih =>
    obtain ⟨k'', v''⟩ := kv
    by_cases h : k' = k''
    · subst h
      by_cases hk : k = k' <;> simp [insertB, lookup, hk]
    · by_cases hk : k = k'' <;> simp [insertB, lookup, h, hk, ih, Ne.symm h]

theorem lookup_insertB_self (k : String) (v : V) (bs : Bs) :
    lookup k (insertB k v bs) = some v := by
  rw [lookup_insertB, if_pos rfl]

theorem lookup_insertB_ne {k k' : String} (v : V) (bs : Bs) (h : k ≠ k') :
    lookup k (insertB k' v bs) = lookup k bs := by
  rw [lookup_insertB, if_neg h]

/-- what `Step` and `Walk` write into the bindings of an error state can be read back -/
theorem lookup_diagnostics (l n e : V) (b : Bs) :
    lookup "error" (insertB "lastBindings" l (insertB "lastNode" n (insertB "error" e b))) = some e ∧
    lookup "lastNode" (insertB "lastBindings" l (insertB "lastNode" n (insertB "error" e b))) = some n ∧
    lookup "lastBindings" (insertB "lastBindings" l (insertB "lastNode" n (insertB "error" e b))) =
      some l := by
  refine ⟨?_, ?_, lookup_insertB_self _ _ _⟩
  · rw [lookup_insertB_ne _ _ (by decide), lookup_insertB_ne _ _ (by decide), lookup_insertB_self]
  · rw [lookup_insertB_ne _ _ (by decide), lookup_insertB_self]

theorem execWrap_err (a : ActionF) (bs : Option Bs) : (execWrap a bs).err = (a bs).err := by
  unfold execWrap
  simp only
  split <;> rfl

theorem execWrap_exe_ne_none (a : ActionF) (bs : Option Bs) : (execWrap a bs).exe ≠ none := by
  unfold execWrap
  simp only
  split <;> simp

/-! ## `step`, case by case -/

theorem notMsg_of (n : Node) (hm : ∀ br, n.branches = some br → br.type ≠ "message") :
    (match n.branches with | some b => b.type == "message" | none => false) = false := by
  split
  · next b hb => simpa using hm b hb
  · rfl

/-- bindings and emissions taken from an execution (`e.Bs = NewBindings()` when nil) -/
def exeOut : Option (Option Bs × List V) → Bs × List V
  | none => ([], [])
  | some (none, em) => ([], em)
  | some (some b, em) => (b, em)

def actErrBs (e : String) (bs : Option Bs) : Bs :=
  insertB "error" (.str e) (insertB "actionError" (.str e) (copyB bs))

def noBranchBs (st : State) (bs : Option Bs) : Bs :=
  insertB "lastBindings" (.obj (copyB st.bs))
    (insertB "lastNode" (.str st.node)
      (insertB "error" (.str "Action node followed no branch") (copyB bs)))

/-- the part of `step` after the action -/
def stepRest (st : State) (n : Node) (bs : Option Bs) (emitted : List V) (pending : Option V) :
    StepOut :=
  let c := consider n.branches bs pending
  if c.1.isNone && n.action.isSome then
    { stride := some { frm := stateCopy st, to := some { node := "error", bs := some (noBranchBs st bs) },
                       consumed := if c.2.1 then pending else none, emitted := emitted },
      err := c.2.2 }
  else
    { stride := some { frm := stateCopy st, to := c.1.map stateCopy,
                       consumed := if c.2.1 then pending else none, emitted := emitted },
      err := c.2.2 }

theorem step_not_compiled (s : Spec) (st : State) (pending : Option V) (hc : s.compiled = false) :
    step s st pending = { stride := none, err := some .notCompiled } := by
  unfold step; simp [hc]

theorem step_unknown (s : Spec) (st : State) (pending : Option V)
    (hc : s.compiled = true) (hn : findNode st.node s.nodes = none) :
    step s st pending = { stride := none, err := some (.unknownNode st.node) } := by
  unfold step; simp [hc, hn]

theorem step_uncompiled_action (s : Spec) (st : State) (pending : Option V) (n : Node)
    (hc : s.compiled = true) (hn : findNode st.node s.nodes = some n)
    (ha : n.action = none) (hs : n.hasSource = true) :
    step s st pending = { stride := none, err := some (.uncompiledAction st.node) } := by
  unfold step; simp [hc, hn, ha, hs]

theorem step_bad_branching (s : Spec) (st : State) (pending : Option V) (n : Node) (a : ActionF)
    (br : Branches)
    (hc : s.compiled = true) (hn : findNode st.node s.nodes = some n)
    (ha : n.action = some a) (hb : n.branches = some br) (ht : br.type = "message") :
    step s st pending = { stride := none, err := some (.badBranching st.node) } := by
  unfold step; simp [hc, hn, ha, hb, ht]

theorem step_noaction (s : Spec) (st : State) (pending : Option V) (n : Node)
    (hc : s.compiled = true) (hn : findNode st.node s.nodes = some n)
    (ha : n.action = none) (hs : n.hasSource = false) :
    step s st pending = stepRest st n st.bs [] pending := by
  unfold step stepRest; simp [hc, hn, ha, hs]

/-- what follows from an action's error -/
def actionErrP (s : Spec) (st : State) (e : String) (emitted : List V) : Sum StepOut (Option Bs × List V) :=
  let stride0 : Stride := { frm := stateCopy st, to := none, consumed := none, emitted := [] }
  let b2 := insertB "error" (.str e) (insertB "actionError" (.str e) (copyB st.bs))
  if !s.actionErrorBranches then
    if s.actionErrorNode == "" then .inl { stride := none, err := some (.action e) }
    else .inl { stride := some { stride0 with emitted := emitted,
                                                to := some { node := s.actionErrorNode, bs := some b2 } },
                err := none }
  else .inr (some b2, emitted)

/-- the action of a node and what follows from its error: return now (`inl`), or go on to the
    branches with these bindings and emissions (`inr`) -/
def actionP (s : Spec) (st : State) (a : ActionF) : Sum StepOut (Option Bs × List V) :=
  let out := execWrap a st.bs
  match out.err with
  | none => .inr (some (exeOut out.exe).1, (exeOut out.exe).2)
  | some e => actionErrP s st e (exeOut out.exe).2

/-- `step`, cut where it reads: checks, action, branches -/
theorem step_eq (s : Spec) (st : State) (pending : Option V) :
    step s st pending =
      if !s.compiled then { stride := none, err := some .notCompiled } else
      match findNode st.node s.nodes with
      | none => { stride := none, err := some (.unknownNode st.node) }
      | some n =>
        if n.action.isNone && n.hasSource then { stride := none, err := some (.uncompiledAction st.node) } else
        if n.action.isSome && (match n.branches with | some b => b.type == "message" | none => false) then
          { stride := none, err := some (.badBranching st.node) } else
        match (match n.action with
               | none => .inr (st.bs, [])
               | some a => actionP s st a : Sum StepOut (Option Bs × List V)) with
        | .inl r => r
        | .inr (bs, emitted) => stepRest st n bs emitted pending := rfl

theorem step_action (s : Spec) (st : State) (pending : Option V) (n : Node) (a : ActionF)
    (hc : s.compiled = true) (hn : findNode st.node s.nodes = some n) (ha : n.action = some a)
    (hm : ∀ br, n.branches = some br → br.type ≠ "message") :
    step s st pending =
      match actionP s st a with
      | .inl r => r
      | .inr (bs, em) => stepRest st n bs em pending := by
  rw [step_eq]
  simp only [hc, hn, ha, Bool.not_true, Bool.false_eq_true, if_false, Option.isNone_some, Bool.false_and,
    Option.isSome_some, Bool.true_and]
  exact if_neg fun h => Bool.false_ne_true ((notMsg_of n hm).symm.trans h)

theorem step_action_ok (s : Spec) (st : State) (pending : Option V) (n : Node) (a : ActionF)
    (hc : s.compiled = true) (hn : findNode st.node s.nodes = some n) (ha : n.action = some a)
    (hm : ∀ br, n.branches = some br → br.type ≠ "message")
    (he : (execWrap a st.bs).err = none) :
    step s st pending =
      stepRest st n (some (exeOut (execWrap a st.bs).exe).1) (exeOut (execWrap a st.bs).exe).2 pending := by
  simp only [step_action s st pending n a hc hn ha hm, actionP, he]

theorem step_action_err_branches (s : Spec) (st : State) (pending : Option V) (n : Node)
    (a : ActionF) (e : String)
    (hc : s.compiled = true) (hn : findNode st.node s.nodes = some n) (ha : n.action = some a)
    (hm : ∀ br, n.branches = some br → br.type ≠ "message")
    (he : (execWrap a st.bs).err = some e) (hb : s.actionErrorBranches = true) :
    step s st pending =
      stepRest st n (some (actErrBs e st.bs)) (exeOut (execWrap a st.bs).exe).2 pending := by
  simp only [step_action s st pending n a hc hn ha hm, actionP, he, actionErrP, hb]
  rfl

theorem step_action_err_node (s : Spec) (st : State) (pending : Option V) (n : Node)
    (a : ActionF) (e : String)
    (hc : s.compiled = true) (hn : findNode st.node s.nodes = some n) (ha : n.action = some a)
    (hm : ∀ br, n.branches = some br → br.type ≠ "message")
    (he : (execWrap a st.bs).err = some e) (hb : s.actionErrorBranches = false)
    (ht : s.actionErrorNode ≠ "") :
    step s st pending =
      { stride := some { frm := stateCopy st,
                         to := some { node := s.actionErrorNode, bs := some (actErrBs e st.bs) },
                         consumed := none, emitted := (exeOut (execWrap a st.bs).exe).2 },
        err := none } := by
  simp [step_action s st pending n a hc hn ha hm, actionP, he, actionErrP, hb, ht]
  rfl

theorem step_action_err_ret (s : Spec) (st : State) (pending : Option V) (n : Node)
    (a : ActionF) (e : String)
    (hc : s.compiled = true) (hn : findNode st.node s.nodes = some n) (ha : n.action = some a)
    (hm : ∀ br, n.branches = some br → br.type ≠ "message")
    (he : (execWrap a st.bs).err = some e) (hb : s.actionErrorBranches = false)
    (ht : s.actionErrorNode = "") :
    step s st pending = { stride := none, err := some (.action e) } := by
  simp [step_action s st pending n a hc hn ha hm, actionP, he, actionErrP, hb, ht]

/-- what the branches of a node are considered with: the bindings and the emissions after its
    action, if the step gets that far -/
inductive Entry (s : Spec) (st : State) (n : Node) : Option Bs → List V → Prop
  | noaction (ha : n.action = none) (hs : n.hasSource = false) : Entry s st n st.bs []
  | ok (a : ActionF) (ha : n.action = some a)
      (hm : ∀ br, n.branches = some br → br.type ≠ "message")
      (he : (execWrap a st.bs).err = none) :
      Entry s st n (some (exeOut (execWrap a st.bs).exe).1) (exeOut (execWrap a st.bs).exe).2
  | errBranches (a : ActionF) (e : String) (ha : n.action = some a)
      (hm : ∀ br, n.branches = some br → br.type ≠ "message")
      (he : (execWrap a st.bs).err = some e) (hb : s.actionErrorBranches = true) :
      Entry s st n (some (actErrBs e st.bs)) (exeOut (execWrap a st.bs).exe).2

/-- every way a step can go; none depends on the pending message before the branches are reached -/
inductive StepCase (s : Spec) (st : State) : Prop
  | nostride (r : StepOut) (hr : r.stride = none) (h : ∀ p, step s st p = r)
  | errNode (n : Node) (a : ActionF) (e : String) (hn : findNode st.node s.nodes = some n)
      (ha : n.action = some a) (he : (execWrap a st.bs).err = some e)
      (h : ∀ p, step s st p =
        { stride := some { frm := stateCopy st,
                           to := some { node := s.actionErrorNode, bs := some (actErrBs e st.bs) },
                           consumed := none, emitted := (exeOut (execWrap a st.bs).exe).2 },
          err := none })
  | rest (n : Node) (bs : Option Bs) (em : List V) (hc : s.compiled = true)
      (hn : findNode st.node s.nodes = some n) (he : Entry s st n bs em)
      (h : ∀ p, step s st p = stepRest st n bs em p)

theorem step_cases (s : Spec) (st : State) : StepCase s st := by
  cases hc : s.compiled with
  | false => exact .nostride _ rfl (step_not_compiled s st · hc)
  | true =>
  cases hn : findNode st.node s.nodes with
  | none => exact .nostride _ rfl (step_unknown s st · hc hn)
  | some n =>
  cases ha : n.action with
  | none =>
    cases hs : n.hasSource with
    | true => exact .nostride _ rfl (step_uncompiled_action s st · n hc hn ha hs)
    | false => exact .rest n _ _ hc hn (.noaction ha hs) (step_noaction s st · n hc hn ha hs)
  | some a =>
    by_cases hm : ∀ br, n.branches = some br → br.type ≠ "message"
    · cases he : (execWrap a st.bs).err with
      | none => exact .rest n _ _ hc hn (.ok a ha hm he) (step_action_ok s st · n a hc hn ha hm he)
      | some e =>
        cases hb : s.actionErrorBranches with
        | true =>
          exact .rest n _ _ hc hn (.errBranches a e ha hm he hb)
            (step_action_err_branches s st · n a e hc hn ha hm he hb)
        | false =>
          by_cases ht : s.actionErrorNode = ""
          · exact .nostride _ rfl (step_action_err_ret s st · n a e hc hn ha hm he hb ht)
          · exact .errNode n a e hn ha he (step_action_err_node s st · n a e hc hn ha hm he hb ht)
    · have : ∃ br, n.branches = some br ∧ br.type = "message" :=
        Classical.byContradiction fun hne => hm fun br hbr hty => hne ⟨br, hbr, hty⟩
      obtain ⟨br, hbr, hty⟩ := this
      exact .nostride _ rfl (step_bad_branching s st · n a br hc hn ha hbr hty)

/-- `stepRest` always yields a stride; this is it, field by field -/
theorem stepRest_eq (st : State) (n : Node) (bs : Option Bs) (em : List V) (p : Option V) :
    stepRest st n bs em p =
      { stride := some
          { frm := stateCopy st,
            to := if (consider n.branches bs p).1.isNone && n.action.isSome
                  then some { node := "error", bs := some (noBranchBs st bs) }
                  else (consider n.branches bs p).1.map stateCopy,
            consumed := if (consider n.branches bs p).2.1 then p else none,
            emitted := em },
        err := (consider n.branches bs p).2.2 } := by
  simp only [stepRest]
  cases (consider n.branches bs p).1.isNone && n.action.isSome <;> rfl

theorem stepRest_to {st : State} {n : Node} {bs : Option Bs} {em : List V} {p : Option V}
    {sd : Stride} {t : State} (hs : (stepRest st n bs em p).stride = some sd) (ht : sd.to = some t) :
    (∃ t', (consider n.branches bs p).1 = some t' ∧ t = stateCopy t') ∨
      t = { node := "error", bs := some (noBranchBs st bs) } := by
  rw [stepRest_eq] at hs
  cases hs
  simp only at ht
  split at ht
  · exact .inr (Option.some.inj ht).symm
  · obtain ⟨t', hcons, rfl⟩ := Option.map_eq_some_iff.mp ht
    exact .inl ⟨t', hcons, rfl⟩

theorem stepRest_err (st : State) (n : Node) (bs : Option Bs) (em : List V) (pending : Option V) :
    (stepRest st n bs em pending).err = (consider n.branches bs pending).2.2 := by
  rw [stepRest_eq]

theorem consider_msg_some (br : Branches) (bs : Option Bs) (m : V) (ht : br.type = "message") :
    (consider (some br) bs (some m)).2.1 = true := by
  unfold consider
  simp only [ht, beq_self_eq_true, if_true]
  split <;> rfl

theorem consider_msg_none (br : Branches) (bs : Option Bs) (ht : br.type = "message") :
    consider (some br) bs none = (none, true, none) := by
  unfold consider
  simp [ht]

theorem consider_nonmsg (b : Option Branches) (bs : Option Bs) (pending : Option V)
    (hm : ∀ br, b = some br → br.type ≠ "message") :
    (consider b bs pending).2.1 = false := by
  unfold consider
  cases b with
  | none => rfl
  | some br =>
    have : (br.type == "message") = false := by simpa using hm br rfl
    simp only [this, Bool.false_eq_true, if_false]
    split <;> rfl

theorem consider_nonmsg_pending (b : Option Branches) (bs : Option Bs) (p q : Option V)
    (hm : ∀ br, b = some br → br.type ≠ "message") :
    consider b bs p = consider b bs q := by
  unfold consider
  cases b with
  | none => rfl
  | some br =>
    have : (br.type == "message") = false := by simpa using hm br rfl
    simp only [this, Bool.false_eq_true, if_false]

/-! ## the search of `tryAll` and `guardLoop` -/

/-- the first answer that is not a plain "no" -/
def firstHit {α ε β : Type} (f : α → Except ε (Option β)) : List α → Except ε (Option β)
  | [] => .ok none
  | a :: rest =>
    match f a with
    | .ok none => firstHit f rest
    | r => r

section
variable {α ε β : Type} {f : α → Except ε (Option β)}

theorem firstHit_cons_none {a : α} (rest : List α) (h : f a = .ok none) :
    firstHit f (a :: rest) = firstHit f rest := by
  simp only [firstHit, h]

theorem firstHit_cons_ne {a : α} (rest : List α) (h : f a ≠ .ok none) :
    firstHit f (a :: rest) = f a := by
  simp only [firstHit]

theorem firstHit_append {pre : List α} (l : List α) (h : ∀ x ∈ pre, f x = .ok none) :
    firstHit f (pre ++ l) = firstHit f l := by
  induction pre with
  | nil => rfl
  | cons a pre ih =>
    obtain ⟨ha, hpre⟩ := List.forall_mem_cons.mp h
    rw [List.cons_append, firstHit_cons_none _ ha]
    exact ih hpre

theorem firstHit_none (l : List α) : firstHit f l = .ok none ↔ ∀ a ∈ l, f a = .ok none := by
  induction l with
  | nil => exact ⟨fun _ => nofun, fun _ => rfl⟩
  | cons a rest ih =>
    rw [List.forall_mem_cons]
    by_cases ha : f a = .ok none
    · rw [firstHit_cons_none rest ha, ih]; exact ⟨fun h => ⟨ha, h⟩, fun h => h.2⟩
    · rw [firstHit_cons_ne rest ha]; exact ⟨fun h => absurd h ha, fun h => h.1⟩

theorem firstHit_eq_iff (l : List α) (r : Except ε (Option β)) (hr : r ≠ .ok none) :
    firstHit f l = r ↔
      ∃ pre a post, l = pre ++ a :: post ∧ (∀ x ∈ pre, f x = .ok none) ∧ f a = r := by
  constructor
  · intro h
    induction l with
    | nil => exact absurd h.symm hr
    | cons b rest ih =>
      by_cases hb : f b = .ok none
      · obtain ⟨pre, a, post, rfl, h2, h3⟩ := ih (firstHit_cons_none rest hb ▸ h)
        exact ⟨b :: pre, a, post, rfl, List.forall_mem_cons.mpr ⟨hb, h2⟩, h3⟩
      · exact ⟨[], b, rest, rfl, nofun, firstHit_cons_ne rest hb ▸ h⟩
  · rintro ⟨pre, a, post, rfl, h2, rfl⟩
    rw [firstHit_append _ h2, firstHit_cons_ne _ hr]

theorem firstHit_mem {l : List α} {r : Except ε (Option β)} (h : firstHit f l = r)
    (hr : r ≠ .ok none) : ∃ a ∈ l, f a = r := by
  obtain ⟨pre, a, post, rfl, _, h⟩ := (firstHit_eq_iff l r hr).mp h
  exact ⟨a, List.mem_append_right _ List.mem_cons_self, h⟩
end

theorem tryAll_eq_firstHit (bs : Option Bs) (against : V) (brs : List Branch) :
    tryAll bs against brs = firstHit (tryBranch · bs against) brs := by
  induction brs with
  | nil => rfl
  | cons b rest ih =>
    simp only [tryAll, firstHit, ih]
    generalize tryBranch b bs against = r
    rcases r with e | _ | st <;> rfl

/-- `Guard.Exec` on one candidate and what `Branch.try` makes of it: an error, the bindings that came
    back, or on to `k` -/
def guardCall (g : ActionF) (cand : Option Bs) (k : Except StepErr (Option Bs)) :
    Except StepErr (Option Bs) :=
  match (execWrap g cand).err with
  | some e => .error (.guard e)
  | none =>
    match (execWrap g cand).exe with
    | some (some b, _) => .ok (some b)
    | _ => k

theorem guardLoop_eq_firstHit (g : ActionF) (cs : List Bs) :
    guardLoop g cs = firstHit (fun c => guardCall g (some c) (.ok none)) cs := by
  induction cs with
  | nil => rfl
  | cons c rest ih =>
    simp only [guardLoop, firstHit, guardCall, ih]
    generalize (execWrap g (some c)).err = e, (execWrap g (some c)).exe = x
    rcases e with _ | e
    · rcases x with _ | ⟨_ | b, em⟩ <;> rfl
    · rfl

theorem guardCall_none (g : ActionF) (cand : Option Bs) :
    guardCall g cand (.ok none) = .ok none ↔
      (execWrap g cand).err = none ∧ ∀ y em, (execWrap g cand).exe ≠ some (some y, em) := by
  unfold guardCall
  generalize (execWrap g cand).err = e, (execWrap g cand).exe = x
  rcases e with _ | e
  · rcases x with _ | ⟨_ | b', em⟩ <;> simp
  · simp

theorem guardCall_some (g : ActionF) (cand : Option Bs) (b : Bs) :
    guardCall g cand (.ok none) = .ok (some b) ↔
      (execWrap g cand).err = none ∧ ∃ em, (execWrap g cand).exe = some (some b, em) := by
  unfold guardCall
  generalize (execWrap g cand).err = e, (execWrap g cand).exe = x
  rcases e with _ | e
  · rcases x with _ | ⟨_ | b', em⟩ <;> simp
  · simp

/-- the choice among the candidates (the middle of `Branch.try`) -/
def choose (b : Branch) (bss : List (Option Bs)) : Except StepErr (Option Bs) :=
  match b.guard with
  | none =>
    match bss with
    | [] => .ok none
    | [c] => .ok c
    | _ => .error .tooManyBindingss
  | some g =>
    match bss with
    | [none] => guardCall g none (.ok none)
    | _ => guardLoop g (bss.filterMap id)

theorem tryBranch_eq (b : Branch) (bs : Option Bs) (against : V) :
    tryBranch b bs against =
      match candidates b bs against with
      | .error e => .error e
      | .ok bss =>
        match choose b bss with
        | .error e => .error e
        | .ok none => .ok none
        | .ok (some c) => .ok (some { node := targetOf b c, bs := some c }) := rfl

/-! ## where the bindings of a target state come from -/

/-- `cand` is one of the candidates of branch `b`: the bindings as they are when there is no
    pattern, else a result of the match -/
inductive IsCandidate (b : Branch) (bs : Option Bs) (against : V) : Option Bs → Prop
  | asis (hp : b.pattern = none) : IsCandidate b bs against bs
  | matched {p : V} {rs : List Bs} {r : Bs} (hp : b.pattern = some p)
      (hm : matchF matchFuel p against (copyB bs) = .ok rs) (hr : r ∈ rs) :
      IsCandidate b bs against (some r)

/-- the candidate gets through the guard of `b`, if there is one, and comes out as `c` -/
inductive Passes (b : Branch) : Option Bs → Bs → Prop
  | unguarded {c : Bs} (hg : b.guard = none) : Passes b (some c) c
  | guarded {cand : Option Bs} {c : Bs} {g : ActionF} {em : List V} (hg : b.guard = some g)
      (hx : (execWrap g cand).exe = some (some c, em)) : Passes b cand c

theorem candidates_ok {b : Branch} {bs : Option Bs} {against : V} {bss : List (Option Bs)}
    (h : candidates b bs against = .ok bss) : ∀ cand ∈ bss, IsCandidate b bs against cand := by
  unfold candidates at h
  split at h
  · next hp =>
    cases h
    intro cand hc
    cases List.mem_singleton.mp hc
    exact .asis hp
  · next p hp =>
    unfold matchTop at h
    generalize hm : matchF matchFuel p against (copyB bs) = res at h
    -- an error or divergence of the matcher is an error of `candidates`
    cases res <;> cases h
    intro cand hc
    obtain ⟨r, hr, rfl⟩ := List.mem_map.mp hc
    exact .matched hp hm hr

theorem tryBranch_some {b : Branch} {bs : Option Bs} {against : V} {t : State}
    (h : tryBranch b bs against = .ok (some t)) :
    ∃ cand c, IsCandidate b bs against cand ∧ Passes b cand c ∧
      t = { node := targetOf b c, bs := some c } := by
  rw [tryBranch_eq] at h
  split at h
  · cases h
  · next bss hcand =>
    have hc := candidates_ok hcand
    split at h
    · cases h
    · cases h
    · next c hch =>
      cases h
      unfold choose at hch
      split at hch
      · next hg =>
        split at hch
        · cases hch
        · cases hch; exact ⟨_, c, hc _ List.mem_cons_self, .unguarded hg, rfl⟩
        · cases hch
      · next g hg =>
        split at hch
        · obtain ⟨_, em, hx⟩ := (guardCall_some g none c).mp hch
          exact ⟨none, c, hc _ List.mem_cons_self, .guarded hg hx, rfl⟩
        · rw [guardLoop_eq_firstHit] at hch
          obtain ⟨c', hc', hx⟩ := firstHit_mem hch nofun
          obtain ⟨oc, hoc, rfl⟩ := List.mem_filterMap.mp hc'
          obtain ⟨_, em, hx⟩ := (guardCall_some g _ c).mp hx
          exact ⟨some c', c, hc _ hoc, .guarded hg hx, rfl⟩

/-- where the bindings of the state `consider` decides on come from: some branch, tried against the
    pending message or the bindings themselves, had a candidate that passed its guard -/
theorem consider_some {b : Option Branches} {bs : Option Bs} {pending : Option V} {t : State}
    (h : (consider b bs pending).1 = some t) :
    ∃ br x against cand c, b = some br ∧ x ∈ br.branches ∧
      (pending = some against ∨ against = .obj (copyB bs)) ∧
      IsCandidate x bs against cand ∧ Passes x cand c ∧ t = { node := targetOf x c, bs := some c } := by
  obtain ⟨br, against, rfl, ha, hto⟩ : ∃ br against, b = some br ∧
      (pending = some against ∨ against = .obj (copyB bs)) ∧
      tryAll bs against br.branches = .ok (some t) := by
    unfold consider at h
    split at h
    · cases h
    · next br =>
      simp only at h
      split at h
      · split at h
        · cases h
        · next m =>
          split at h
          · cases h
          · next hto => cases h; exact ⟨br, m, rfl, .inl rfl, hto⟩
      · split at h
        · cases h
        · next hto => cases h; exact ⟨br, _, rfl, .inr rfl, hto⟩
  rw [tryAll_eq_firstHit] at hto
  obtain ⟨x, hx, h3⟩ := firstHit_mem hto nofun
  obtain ⟨cand, c, r⟩ := tryBranch_some h3
  exact ⟨br, x, against, cand, c, rfl, hx, ha, r⟩
