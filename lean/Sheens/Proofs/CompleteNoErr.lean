import Sheens.Proofs.CompleteBasic

/-!
# No branch of the search raises an error (C02, C03)

The matcher explores every backtracking branch, and an error in any of them is the result of the
whole run.  `patOK p`: every array sub-pattern has at most one variable (`getVariable` succeeds) and
no map sub-pattern mixes a property variable with other keys.  For such a pattern, a `good` message
and `good` bindings, no function of the block returns `err` (`noErr_all`); an embedded pattern is
`patOK` (`emb_patOK`).
-/

namespace Sheens.Complete

mutual
def patOK : V → Bool
  | .arr ps => (match getVariable ps none [] with | .ok _ => true | .error _ => false) && patOKList ps
  | .obj pm => !checkBadPropVars pm && patOKKvs pm
  | _ => true
def patOKList : List V → Bool
  | [] => true
  | x :: xs => patOK x && patOKList xs
def patOKKvs : List (String × V) → Bool
  | [] => true
  | (_, v) :: rest => patOK v && patOKKvs rest
end

theorem patOK_arr {ps : List V} :
    patOK (.arr ps) = true ↔ (∃ r, getVariable ps none [] = .ok r) ∧ patOKList ps = true := by
  refine Bool.and_eq_true_iff.trans (and_congr_left' ?_)
  cases getVariable ps none [] <;> simp

theorem patOK_obj {pm : List (String × V)} :
    patOK (.obj pm) = true ↔ checkBadPropVars pm = false ∧ patOKKvs pm = true :=
  Bool.and_eq_true_iff.trans (and_congr_left' (by simp))

theorem patOKList_iff {xs : List V} : patOKList xs = true ↔ ∀ x ∈ xs, patOK x = true := by
  induction xs with
  | nil => exact ⟨fun _ _ h => (nomatch h), fun _ => rfl⟩
  | cons y xs ih => rw [List.forall_mem_cons, ← ih]; exact Bool.and_eq_true_iff

theorem patOKKvs_iff {kvs : List (String × V)} :
    patOKKvs kvs = true ↔ ∀ kv ∈ kvs, patOK kv.2 = true := by
  induction kvs with
  | nil => exact ⟨fun _ _ h => (nomatch h), fun _ => rfl⟩
  | cons kv rest ih => rw [List.forall_mem_cons, ← ih]; exact Bool.and_eq_true_iff

theorem getVariable_novar (l : List V) : ∀ (v : Option String) (acc : List V),
    (∀ x ∈ l, isVarV x = false) → getVariable l v acc = .ok (v, acc.reverse ++ l) := by
  induction l with
  | nil => intro v acc _; simp [getVariable]
  | cons x xs ih =>
    intro v acc h
    rw [getVariable_cons_other (h x List.mem_cons_self),
      ih v _ fun y hy => h y (List.mem_cons_of_mem _ hy)]
    simp

theorem good_notVar {x : V} (h : x.good = true) : isVarV x = false := by
  cases x with
  | str s => exact (Bool.not_eq_true' _).mp h
  | _ => rfl

mutual
theorem good_patOK : (f : V) → f.good = true → patOK f = true
  | .null, _ => rfl
  | .bool _, _ => rfl
  | .num _, _ => rfl
  | .str _, _ => rfl
  | .arr xs, h =>
    patOK_arr.mpr ⟨⟨_, getVariable_novar xs none [] fun x hx => good_notVar (goodList_mem h x hx)⟩,
      goodList_patOK xs h⟩
  | .obj kvs, h =>
    patOK_obj.mpr ⟨checkBadPropVars_false fun kv hkv => (goodKvs_mem h kv hkv).1, goodKvs_patOK kvs h⟩
  | .int _, h | .bobj _, h | .other _, h => nomatch h
theorem goodList_patOK : (xs : List V) → goodList xs = true → patOKList xs = true
  | [], _ => rfl
  | x :: xs, h =>
    have h := Bool.and_eq_true_iff.mp h
    Bool.and_eq_true_iff.mpr ⟨good_patOK x h.1, goodList_patOK xs h.2⟩
theorem goodKvs_patOK : (kvs : List (String × V)) → goodKvs kvs = true → patOKKvs kvs = true
  | [], _ => rfl
  | (k, v) :: rest, h => by
    simp only [goodKvs, Bool.and_eq_true] at h
    exact Bool.and_eq_true_iff.mpr ⟨good_patOK v h.1.1.2, goodKvs_patOK rest h.2⟩
end

/-- all-branches invariant of the array loops -/
def PBr : List Bs → List (Nat × V) → Prop :=
  fun bss mm => (∀ e ∈ mm, e.2.good = true) ∧ ∀ bs ∈ bss, GoodBs bs

/-- no function of the block returns `err e` at fuel `n`: on plain `patOK` patterns, `good` message
    parts and `good` bindings -/
structure NoErr (e : MatchErr) (n : Nat) : Prop where
  matchBound : ∀ {b f bs}, b.good = true → f.good = true → GoodBs bs → matchBound n b f bs ≠ .err e
  matchStr : ∀ {s f bs}, f.good = true → GoodBs bs → matchStr n s f bs ≠ .err e
  matchF : ∀ {p f bs}, p.plainPat = true → patOK p = true → f.good = true → GoodBs bs →
    matchF n p f bs ≠ .err e
  matchObj : ∀ {pm f bs}, plainPatKvs pm = true → checkBadPropVars pm = false → patOKKvs pm = true →
    f.good = true → GoodBs bs → matchObj n pm f bs ≠ .err e
  matchArr : ∀ {ps f bs}, plainPatList ps = true → (∃ r, getVariable ps none [] = .ok r) →
    patOKList ps = true → f.good = true → GoodBs bs → matchArr n ps f bs ≠ .err e
  matchWith : ∀ {bss p f}, p.plainPat = true → patOK p = true → f.good = true →
    (∀ bs ∈ bss, GoodBs bs) → matchWith n bss p f ≠ .err e
  mapcat : ∀ {bss pm fm}, plainPatKvs pm = true → patOKKvs pm = true →
    (∀ kv ∈ pm, isVar kv.1 = false) → goodKvs fm = true → (∀ bs ∈ bss, GoodBs bs) →
    mapcat n bss pm fm ≠ .err e
  propGather : ∀ {bss k v fm}, v.plainPat = true → patOK v = true → goodKvs fm = true →
    (∀ bs ∈ bss, GoodBs bs) → propGather n bss k v fm ≠ .err e
  arrayOne : ∀ {bss pat mm todo}, pat.plainPat = true → patOK pat = true → PBr bss todo →
    arrayOne n bss pat mm todo ≠ .inl (.err e)
  arraycat : ∀ {bsss pat fxas}, pat.plainPat = true → patOK pat = true → Brs PBr bsss fxas →
    arraycat n bsss pat fxas ≠ .inl (.err e)
  loopXs : ∀ {xs fxs bsss fxas flag}, (∀ x ∈ xs, x.plainPat = true ∧ patOK x = true) →
    Brs PBr bsss fxas → loopXs n xs fxs bsss fxas flag ≠ .inl (.err e)

/-! ## the bindings stay `good` along every branch (`Run.goodBs` through the list functions) -/

theorem with_good {n : Nat} {bss acc : List Bs} {p f : V} (hg : f.good = true)
    (hbss : ∀ bs ∈ bss, GoodBs bs) (h : matchWith n bss p f = .ok acc) : ∀ r ∈ acc, GoodBs r := by
  intro r hr
  obtain ⟨b, hb, hrun⟩ := matchWith_run h r hr
  exact hrun.goodBs hg (hbss b hb)

theorem cat_pbr {n : Nat} {bsss : List (List Bs)} {pat : V} {fxas : List (List (Nat × V))} {a f}
    (hbrs : Brs PBr bsss fxas) (h : arraycat n bsss pat fxas = .inr (a, f)) : Brs PBr a f := by
  refine (arraycat_run hbrs h).imp ?_
  rintro acc mm' ⟨bss, mm, hP, j, fact, hjm, hmm', hacc⟩
  refine ⟨fun e he => hP.1 e (List.mem_filter.mp (hmm' ▸ he)).1, fun r hr => ?_⟩
  obtain ⟨b, hb, hrun⟩ := hacc r hr
  exact hrun.goodBs (hP.1 _ hjm) (hP.2 b hb)

/-- the branches at the end of the loop of `matchArr`, as the variable step receives them -/
theorem loop_pbr {n : Nat} {xs fa : List V} {bs : Bs} {fxs' : List Scalar} {bsss' : List (List Bs)}
    {fxas' : List (List (Nat × V))} {flag : Bool} (hfa : goodList fa = true) (hbs : GoodBs bs)
    (h : loopXs n xs (indexScalars fa []) [[bs]] [indexStruct fa 0] flag = .inr (fxs', bsss', fxas')) :
    Brs PBr bsss' (fxas'.map (fun m => m ++ leftovers fxs' fa.length)) := by
  refine (loopXs_run (P := fun bss mm => bss = [bs] ∧ mm = indexStruct fa 0)
    (Brs.cons ⟨rfl, rfl⟩ Brs.nil) h).map_right _ ?_
  rintro bss' mm' ⟨_, _, ⟨rfl, rfl⟩, hres⟩
  refine ⟨fun e he => ?_, fun r hr => ?_⟩
  · rcases List.mem_append.mp he with he | he
    · exact goodList_mem hfa _ (indexStruct_mem (hres.facts e he)).2
    · obtain ⟨sc, h1, h2⟩ := leftovers_mem he
      rw [h2]
      exact indexScalars_good hfa sc (hres.scalars sc h1)
  · obtain ⟨b, hb, hrun⟩ := hres.run r hr
    obtain rfl := List.mem_singleton.mp hb
    obtain ⟨L', _, hrun⟩ := hrun fa (Rem.init fa)
    exact hrun.goodBs (goodList_mem hfa) hbs

theorem noErr_succ {e : MatchErr} {n : Nat} (ih : NoErr e n) : NoErr e (n+1) where
  matchF := by
    intro p f bs hp hok hg hbs
    rw [matchF_succ]
    rw [fudge_plainPat hp, fudge_good hg]
    cases p with
    | int _ | bobj _ | other _ => cases hp
    | null => simp only [matchNull]; split <;> simp
    | bool a | num a =>
      simp only [matchBool, matchNum]
      split
      · split <;> simp
      · simp
    | str s => exact ih.matchStr hg hbs
    | obj pm =>
      obtain ⟨hbad, hkvs⟩ := patOK_obj.mp hok
      exact ih.matchObj hp hbad hkvs hg hbs
    | arr ps =>
      obtain ⟨hgv, hl⟩ := patOK_arr.mp hok
      exact ih.matchArr hp hgv hl hg hbs
  matchBound := by
    intro b f bs hb hg hbs
    rcases matchBound_arm b f bs with ⟨rs, hc⟩ | ⟨_, ht⟩
    · rw [hc]; nofun
    · rw [ht]; exact ih.matchF (good_plainPat b hb) (good_patOK b hb) hg hbs
  matchStr := by
    intro s f bs hg hbs
    rcases matchStr_arm s f bs with ⟨rs, hc⟩ | ⟨b, _, hl, ht⟩
    · rw [hc]; nofun
    · rw [ht]; exact ih.matchBound (hbs _ _ hl) hg hbs
  matchWith := by
    intro bss p f hp hok hg hbss
    cases bss with
    | nil => simp [matchWith_nil]
    | cons bs rest =>
      rw [matchWith_cons]
      split
      · split
        · simp
        · exact ih.matchWith hp hok hg fun b hb => hbss b (List.mem_cons_of_mem _ hb)
      · exact ih.matchF hp hok hg (hbss bs List.mem_cons_self)
  mapcat := by
    intro bss pm fm hp hok hkeys hg hbss
    cases pm with
    | nil => simp [mapcat_nil]
    | cons kv rest =>
      obtain ⟨k, v⟩ := kv
      simp only [plainPatKvs, Bool.and_eq_true] at hp
      replace hok := Bool.and_eq_true_iff.mp hok
      have hk : isVar k = false := hkeys (k, v) List.mem_cons_self
      have hrec := fun bss' => ih.mapcat (bss := bss') hp.2 hok.2
        (fun kv hkv => hkeys kv (List.mem_cons_of_mem _ hkv)) hg
      simp only [mapcat_cons, hk, Bool.false_eq_true, if_false]
      cases hl : lookup k fm with
      | none =>
        simp only
        split
        · exact hrec bss hbss
        · simp
      | some fv =>
        simp only
        have hfv : fv.good = true := good_lookup hg hl
        split
        · simp
        · next acc _ hW => exact hrec acc (with_good hfv hbss hW)
        · exact ih.matchWith hp.1.1 hok.1 hfv hbss
  propGather := by
    intro bss k v fm hp hok hfm hbss
    cases fm with
    | nil => simp [propGather_nil]
    | cons kv rest =>
      obtain ⟨fk, fv⟩ := kv
      have hfk := goodKvs_mem hfm (fk, fv) List.mem_cons_self
      have hfkg : (V.str fk).good = true := by simpa [V.good] using hfk.1
      simp only [propGather_cons]
      split
      · next ext hW =>
        split
        · split
          · simp
          · simp only [goodKvs, Bool.and_eq_true] at hfm
            exact ih.propGather hp hok hfm.2 hbss
        · split
          · simp
          · exact ih.matchWith hp hok hfk.2 (with_good hfkg hbss hW)
      · exact ih.matchWith rfl rfl hfkg hbss
  matchObj := by
    intro pm f bs hp hbad hok hg hbs
    have hone : ∀ b ∈ [bs], GoodBs b := List.forall_mem_singleton.mpr hbs
    cases f with
    | obj fm =>
      have hgm : goodKvs fm = true := hg
      rcases matchObj_arms pm fm bs with ⟨_, h⟩ | ⟨hb, _⟩ | ⟨k, v, rfl, _, h⟩ | ⟨_, hkeys, h⟩
      · simp [h]
      · rw [hbad] at hb; cases hb
      · simp only [plainPatKvs, Bool.and_eq_true] at hp
        rw [h]
        exact ih.propGather hp.1.1 (Bool.and_eq_true_iff.mp hok).1 hgm hone
      · rw [h]
        exact ih.mapcat hp hok hkeys hgm hone
    | _ => simp [matchObj_succ]
  arrayOne := by
    intro bss pat mm todo hp hok hP
    cases todo with
    | nil => simp [arrayOne_nil]
    | cons jf todo =>
      obtain ⟨j, fact⟩ := jf
      rw [arrayOne_cons]
      split
      · next acc hW =>
        split
        · next r hO =>
          exact fun hc => ih.arrayOne hp hok
            ⟨fun x hx => hP.1 x (List.mem_cons_of_mem _ hx), hP.2⟩ (hO.trans hc)
        · split <;> simp
      · exact fun hc =>
          ih.matchWith hp hok (hP.1 _ List.mem_cons_self) hP.2 (Sum.inl.inj hc)
  arraycat := by
    intro bsss pat fxas hp hok hbrs
    cases hbrs with
    | nil => simp [arraycat_nil]
    | @cons bss mm bsss fxas hp1 hrest =>
      rw [arraycat_cons]
      split
      · next r hO => exact fun hc => ih.arrayOne hp hok hp1 (hO.trans hc)
      · split
        · next r hC => exact fun hc => ih.arraycat hp hok hrest (hC.trans hc)
        · simp
  loopXs := by
    intro xs fxs bsss fxas flag hxs hbrs
    cases xs with
    | nil => simp [loopXs_nil]
    | cons x xs =>
      obtain ⟨hxp, hxo⟩ := hxs x List.mem_cons_self
      have hxs' : ∀ y ∈ xs, y.plainPat = true ∧ patOK y = true :=
        fun y hy => hxs y (List.mem_cons_of_mem _ hy)
      rw [loopXs_cons]
      split
      · split
        · exact ih.loopXs hxs' hbrs
        · simp
      · split
        · simp
        · split
          · next r hC =>
            exact fun hc => ih.arraycat hxp hxo hbrs
              (hC.trans (congrArg Sum.inl (Sum.inl.inj hc)))
          · next b1 f1 hC =>
            split
            · simp
            · exact ih.loopXs hxs' (cat_pbr hbrs hC)
  matchArr := by
    intro ps f bs hp hgvok hok hg hbs
    obtain ⟨⟨v, xs⟩, hgv⟩ := hgvok
    simp only [matchArr_succ, hgv]
    split
    · next fa =>
      have hfa : goodList fa = true := hg
      have hinit : Brs PBr [[bs]] [indexStruct fa 0] :=
        Brs.cons ⟨fun e he => goodList_mem hfa _ (indexStruct_mem he).2,
          List.forall_mem_singleton.mpr hbs⟩ Brs.nil
      -- the non-variable elements are elements of the pattern
      have hxs : ∀ x ∈ xs, x.plainPat = true ∧ patOK x = true := fun x hx =>
        have hx' : x ∈ ps := (List.mem_filter.mp ((getVariable_ok hgv).1 ▸ hx)).1
        ⟨plainPatList_mem hp x hx', patOKList_iff.mp hok x hx'⟩
      split
      · next r hL => exact fun hc => ih.loopXs hxs hinit (hc ▸ hL)
      · next fxs' bsss fxas hL =>
        split
        · simp
        · next vn =>
          split
          · next r hC =>
            exact fun hc => ih.arraycat rfl rfl (loop_pbr hfa hbs hL) (hc ▸ hC)
          · split <;> simp
    · simp

theorem noErr_all {e : MatchErr} : ∀ n, NoErr e n
  | 0 => by constructor <;> intros <;> simp
  | n+1 => noErr_succ (noErr_all n)

/-- a valid plain pattern never makes the matcher err, whatever the (good) message and the (good) bindings -/
theorem matchF_noerr {n : Nat} {p f : V} {bs : Bs} {e : MatchErr} (hp : p.plainPat = true)
    (hok : patOK p = true) (hf : f.good = true) (hb : GoodBs bs) : matchF n p f bs ≠ .err e :=
  (noErr_all n).matchF hp hok hf hb

theorem emb_patOK {bs₀ σ : Bs} {p f : V} (h : Emb bs₀ σ p f) : patOK p = true := by
  refine Emb.rec (bs₀ := bs₀) (σ := σ)
    (motive_1 := fun p _ _ => patOK p = true)
    (motive_2 := fun pm _ _ => patOKKvs pm = true)
    (motive_3 := fun xs _ _ _ => patOKList xs = true)
    ?scalar
    (fun _ _ => rfl)
    rfl
    (fun _ _ _ _ ih => patOK_obj.mpr ⟨rfl, Bool.and_eq_true_iff.mpr ⟨ih, rfl⟩⟩)
    (fun _ hobj ih => patOK_obj.mpr ⟨checkBadPropVars_false hobj.keys_nonvar, ih⟩)
    ?arr
    rfl
    (fun _ _ _ _ ih1 ih2 => Bool.and_eq_true_iff.mpr ⟨ih1, ih2⟩)
    ?absent
    rfl
    (fun _ _ _ ih1 ih3 => Bool.and_eq_true_iff.mpr ⟨ih1, ih3⟩)
    h
  case scalar =>
    intro p f hc _
    cases p <;> first | rfl | cases hc
  case arr =>
    intro ps vo xs fs L hgv _ _ ih
    refine patOK_arr.mpr ⟨⟨_, hgv⟩, ?_⟩
    have hps := (getVariable_spec hgv).2
    cases vo with
    | none => exact hps ▸ ih
    | some s =>
      refine patOKList_iff.mpr (fun x hx => ?_)
      rcases List.mem_cons.mp (hps.2.mem_iff.mp hx) with rfl | hx
      · rfl
      · exact patOKList_iff.mp ih x hx
  case absent =>
    intro k fm pv rest _ _ ho _ ih2
    obtain ⟨s, rfl, _⟩ := optVar_str ho
    exact Bool.and_eq_true_iff.mpr ⟨rfl, ih2⟩

end Sheens.Complete
