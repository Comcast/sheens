import Sheens.Proofs.EngineLemmas

/-! # Lemmas about `walkStride` and `walkLoop` -/

/-! ## what a single stride looks like -/

theorem stepRest_pending (st : State) (n : Node) (bs : Option Bs) (em : List V) (p q : Option V)
    (hm : ∀ br, n.branches = some br → br.type ≠ "message") :
    stepRest st n bs em p = stepRest st n bs em q := by
  unfold stepRest
  simp only [consider_nonmsg_pending n.branches bs p q hm, consider_nonmsg n.branches bs q hm]
  rfl

theorem Entry.nonmsg {s : Spec} {st : State} {n : Node} {bs : Option Bs} {em : List V}
    (he : Entry s st n bs em) (hc : s.compiled = true) (hn : findNode st.node s.nodes = some n)
    (h : canConsume s st.node = false) : ∀ br, n.branches = some br → br.type ≠ "message" := by
  cases he with
  | noaction ha hs =>
    intro br hbr hty
    unfold canConsume at h
    simp [hc, hn, ha, hs, hbr, hty] at h
  | ok _ _ hm => exact hm
  | errBranches _ _ _ hm => exact hm

theorem canConsume_true {s : Spec} {node : String} (h : canConsume s node = true) :
    s.compiled = true ∧ ∃ n br, findNode node s.nodes = some n ∧ n.action = none ∧
      n.hasSource = false ∧ n.branches = some br ∧ br.type = "message" := by
  unfold canConsume at h
  simp only [Bool.and_eq_true] at h
  obtain ⟨hc, h⟩ := h
  refine ⟨hc, ?_⟩
  split at h
  · next n hn =>
    simp only [Bool.and_eq_true] at h
    obtain ⟨⟨ha, hs⟩, hb⟩ := h
    split at hb
    · next br hbr =>
      exact ⟨n, br, hn, by simpa using ha, by simpa using hs, hbr, by simpa using hb⟩
    · cases hb
  · cases h

def idleStride (st : State) : Stride :=
  { frm := stateCopy st, to := none, consumed := none, emitted := [] }

/-- the stride `walkStride` starts from: the step's, or a made-up one -/
def baseStride (st : State) (o : Option Stride) : Stride :=
  match o with
  | some x => x
  | none => idleStride st

/-- the bindings of the error state a walk makes up -/
def errBs (name : String) (st : State) (e : StepErr) : Bs :=
  insertB "lastBindings" (.obj (copyB st.bs))
    (insertB "lastNode" (.str st.node)
      (insertB "error" (.str (errText name e)) (copyB st.bs)))

theorem stateCopy_idem (t : State) : stateCopy (stateCopy t) = stateCopy t := rfl

section
variable (s : Spec) (st : State) (p : Option V)

theorem step_indep (h : canConsume s st.node = false) (p q : Option V) :
    step s st p = step s st q := by
  cases step_cases s st with
  | nostride r _ h' => rw [h', h']
  | errNode _ _ _ _ _ _ h' => rw [h', h']
  | rest n bs em hc hn he h' =>
    rw [h', h']
    exact stepRest_pending _ _ _ _ _ _ (he.nonmsg hc hn h)

theorem walkStride_eq :
    walkStride s st p =
      match (step s st p).err with
      | none => baseStride st (step s st p).stride
      | some e =>
        if st.node == "error" then baseStride st (step s st p).stride
        else { baseStride st (step s st p).stride with
                 to := some { node := "error", bs := some (errBs s.name st e) } } := rfl

theorem walkStride_cases :
    walkStride s st p = baseStride st (step s st p).stride ∨
    ∃ b, walkStride s st p =
      { baseStride st (step s st p).stride with to := some { node := "error", bs := some b } } := by
  rw [walkStride_eq]
  cases (step s st p).err with
  | none => exact .inl rfl
  | some e =>
    cases st.node == "error" with
    | true => exact .inl rfl
    | false => exact .inr ⟨_, rfl⟩

theorem walkStride_consumed_base :
    (walkStride s st p).consumed = (baseStride st (step s st p).stride).consumed := by
  rcases walkStride_cases s st p with h | ⟨b, h⟩ <;> rw [h]
theorem walkStride_emitted_base :
    (walkStride s st p).emitted = (baseStride st (step s st p).stride).emitted := by
  rcases walkStride_cases s st p with h | ⟨b, h⟩ <;> rw [h]

theorem baseStride_facts {sd : Stride} (hsd : sd = baseStride st (step s st p).stride) :
    sd.frm = stateCopy st ∧ (∀ t, sd.to = some t → stateCopy t = t) ∧
      (sd.to = none → sd.emitted = []) := by
  subst hsd
  unfold baseStride
  cases step_cases s st with
  | nostride r hr h => rw [h, hr]; exact ⟨rfl, fun t ht => (by cases ht), fun _ => rfl⟩
  | errNode n a e _ _ _ h =>
    rw [h]; exact ⟨rfl, fun t ht => (by cases ht; rfl), fun hto => (by cases hto)⟩
  | rest n bs em _ _ he h =>
    rw [h, stepRest_eq]
    refine ⟨rfl, fun t ht => ?_, fun hto => ?_⟩
    · simp only at ht
      split at ht
      · cases ht; rfl
      · obtain ⟨t', _, rfl⟩ := Option.map_eq_some_iff.mp ht; rfl
    · -- only a node without an action can go nowhere, and it emits nothing
      have hna : n.action = none := by
        cases ha : n.action with
        | none => rfl
        | some a => cases hcons : (consider n.branches bs p).1 <;> simp [ha, hcons] at hto
      cases he with
      | noaction => rfl
      | ok a ha => rw [ha] at hna; cases hna
      | errBranches a e ha => rw [ha] at hna; cases hna

theorem walkStride_frm : (walkStride s st p).frm = stateCopy st := by
  rcases walkStride_cases s st p with h | ⟨b, h⟩ <;> rw [h] <;> exact (baseStride_facts s st p rfl).1

/-- every target has bindings, so copying it changes nothing -/
theorem walkStride_to_copy (t : State) (h : (walkStride s st p).to = some t) : stateCopy t = t := by
  rcases walkStride_cases s st p with h' | ⟨b, h'⟩
  · rw [h'] at h; exact (baseStride_facts s st p rfl).2.1 t h
  · rw [h'] at h; cases h; rfl

theorem walkStride_stuck_emits (h : (walkStride s st p).to = none) :
    (walkStride s st p).emitted = [] := by
  rcases walkStride_cases s st p with h' | ⟨b, h'⟩
  · rw [h'] at h ⊢; exact (baseStride_facts s st p rfl).2.2 h
  · rw [h'] at h; cases h

theorem walkStride_indep (h : canConsume s st.node = false) (p q : Option V) :
    walkStride s st p = walkStride s st q := by
  unfold walkStride
  rw [step_indep s st h p q]

theorem walkStride_consumer_none (h : canConsume s st.node = true) :
    walkStride s st none = idleStride st := by
  obtain ⟨hc, n, br, hn, ha, hs, hb, ht⟩ := canConsume_true h
  unfold walkStride
  rw [step_noaction s st _ n hc hn ha hs, stepRest_eq, hb, consider_msg_none br st.bs ht, ha]
  rfl

theorem walkStride_consumer_some (m : V) (h : canConsume s st.node = true) :
    (walkStride s st (some m)).consumed = some m := by
  obtain ⟨hc, n, br, hn, ha, hs, hb, ht⟩ := canConsume_true h
  rw [walkStride_consumed_base]
  unfold baseStride
  rw [step_noaction s st _ n hc hn ha hs, stepRest_eq, hb]
  exact if_pos (consider_msg_some br st.bs m ht)

theorem walkStride_nonconsumer (h : canConsume s st.node = false) :
    (walkStride s st p).consumed = none := by
  rw [walkStride_consumed_base]
  unfold baseStride
  cases step_cases s st with
  | nostride r hr h' => rw [h', hr]; rfl
  | errNode _ _ _ _ _ _ h' => rw [h']
  | rest n bs em hc hn he h' =>
    rw [h', stepRest_eq]
    simp only [consider_nonmsg _ _ _ (he.nonmsg hc hn h)]
    rfl

end

def Walked.cons (sd : Stride) (w : Walked) : Walked := { w with strides := sd :: w.strides }

theorem walkLoop_acc (s : Spec) (bp : State → Bool) (i : Nat) (st : State) (p : List V)
    (acc : List Stride) :
    walkLoop s bp i st p acc =
      { walkLoop s bp i st p [] with strides := acc.reverse ++ (walkLoop s bp i st p []).strides } := by
  induction i generalizing st p acc with
  | zero => simp [walkLoop]
  | succ i ih =>
    simp only [walkLoop]
    cases bp st
    case true => simp
    simp only [Bool.false_eq_true, if_false]
    generalize walkStride s st (pendingOf p) = sd
    generalize (if sd.consumed.isSome = true then List.drop 1 p else p) = p'
    cases sd.to with
    | some t =>
      simp only []
      rw [ih _ _ (sd :: acc), ih _ _ [sd]]
      simp
    | none =>
      simp only []
      cases p'.isEmpty
      · cases sd.consumed.isNone
        · rw [ih _ _ (sd :: acc), ih _ _ [sd]]
          simp
        · simp
      · simp

/-- the walk loop as `Walk` starts it, with no stride recorded yet -/
def W (s : Spec) (bp : State → Bool) (i : Nat) (st : State) (p : List V) : Walked :=
  walkLoop s bp i st p []

/-- the messages left after the stride `sd` -/
def after (sd : Stride) (p : List V) : List V := if sd.consumed.isSome then p.drop 1 else p

theorem after_mem (sd : Stride) (p : List V) : ∀ x ∈ after sd p, x ∈ p := by
  intro x hx
  unfold after at hx
  split at hx
  · exact List.mem_of_mem_drop hx
  · exact hx

/-- the walk ends with this stride: it goes nowhere, and no message is left or none was consumed -/
def ends (sd : Stride) (p : List V) : Bool :=
  sd.to.isNone && ((after sd p).isEmpty || sd.consumed.isNone)

theorem W_zero (s : Spec) (bp : State → Bool) (st : State) (p : List V) :
    W s bp 0 st p = { strides := [], remaining := p, stopped := .limited } := rfl

/-- one iteration of the walk: a breakpoint, the last stride, or a stride and the rest of the walk
    from the state it leads to (`walkStride_to_copy`: copying that state changes nothing) -/
theorem W_succ (s : Spec) (bp : State → Bool) (i : Nat) (st : State) (p : List V) :
    W s bp (i+1) st p =
      if bp st then { strides := [], remaining := p, stopped := .breakpoint } else
      let sd := walkStride s st (pendingOf p)
      if ends sd p then { strides := [sd], remaining := [], stopped := .done }
      else (W s bp i (sd.to.getD st) (after sd p)).cons sd := by
  simp only [W, walkLoop, after, ends, Walked.cons]
  by_cases hb : bp st = true
  · rw [if_pos hb, if_pos hb]; rfl
  · rw [if_neg hb, if_neg hb]
    have hcopy := walkStride_to_copy s st (pendingOf p)
    generalize walkStride s st (pendingOf p) = sd at hcopy ⊢
    obtain ⟨frm, to, consumed, em⟩ := sd
    cases to with
    | some t =>
      simp only [Option.isNone_some, Bool.false_and, Bool.false_eq_true, if_false, Option.getD_some]
      rw [walkLoop_acc, hcopy t rfl]
      simp
    | none =>
      simp only [Option.isNone_none, Bool.true_and, Option.getD_none]
      generalize (if consumed.isSome then p.drop 1 else p) = p'
      -- only the case that goes on has an accumulator to move
      cases p'.isEmpty
      · cases consumed.isNone
        · exact walkLoop_acc s bp i st _ _
        · rfl
      · rfl

theorem W_ind (s : Spec) (bp : State → Bool) {P : Nat → State → List V → Walked → Prop}
    (h0 : ∀ st p, P 0 st p { strides := [], remaining := p, stopped := .limited })
    (hbp : ∀ i st p, bp st = true →
      P (i+1) st p { strides := [], remaining := p, stopped := .breakpoint })
    (hstop : ∀ i st p, bp st = false → (walkStride s st (pendingOf p)).to = none →
      ((after (walkStride s st (pendingOf p)) p).isEmpty = true ∨
        (walkStride s st (pendingOf p)).consumed = none) →
      P (i+1) st p { strides := [walkStride s st (pendingOf p)], remaining := [], stopped := .done })
    (hgo : ∀ i st p w, bp st = false →
      P i ((walkStride s st (pendingOf p)).to.getD st) (after (walkStride s st (pendingOf p)) p) w →
      P (i+1) st p (w.cons (walkStride s st (pendingOf p)))) :
    ∀ i st p, P i st p (W s bp i st p) := by
  intro i
  induction i with
  | zero => exact h0
  | succ i ih =>
    intro st p
    rw [W_succ]
    split
    · exact hbp i st p ‹_›
    · have hb : bp st = false := by simpa using ‹¬bp st = true›
      simp only
      split
      · next h =>
        simp only [ends, Bool.and_eq_true, Bool.or_eq_true, Option.isNone_iff_eq_none] at h
        exact hstop i st p hb h.1 h.2
      · exact hgo i st p _ hb (ih _ _)

/-- no message of the batch is JSON `null` (which `pendingOf` takes for "no message") -/
def NonNullL (msgs : List V) : Prop := ∀ m ∈ msgs, m ≠ V.null

theorem pendingOf_cons {m : V} (p : List V) (h : m ≠ V.null) : pendingOf (m :: p) = some m := by
  cases m <;> first | rfl | exact absurd rfl h

/-- the message the stride consumed, if any -/
def consL (sd : Stride) : List V := match sd.consumed with | some m => [m] | none => []

theorem consumedOf_cons (sd : Stride) (w : Walked) :
    consumedOf (w.cons sd) = consL sd ++ consumedOf w := by
  unfold consumedOf Walked.cons consL
  simp only [List.filterMap_cons]
  split <;> simp_all

theorem emittedOf_cons (sd : Stride) (w : Walked) :
    emittedOf (w.cons sd) = sd.emitted ++ emittedOf w := by
  unfold emittedOf Walked.cons
  simp

theorem lastTo_cons_getD (sd : Stride) (ws : List Stride) (st : State) :
    (lastTo (sd :: ws)).getD st = (lastTo ws).getD (sd.to.getD st) := by
  simp only [lastTo]
  cases lastTo ws with
  | some x => rfl
  | none => cases sd.to <;> rfl

theorem consumed_after (s : Spec) (st : State) (p : List V) (hnn : NonNullL p) :
    consL (walkStride s st (pendingOf p)) ++ after (walkStride s st (pendingOf p)) p = p ∧
    NonNullL (after (walkStride s st (pendingOf p)) p) := by
  unfold consL after
  cases hc : canConsume s st.node with
  | false => rw [walkStride_nonconsumer s st _ hc]; exact ⟨rfl, hnn⟩
  | true =>
    cases p with
    | nil =>
      rw [show walkStride s st (pendingOf []) = idleStride st from walkStride_consumer_none s st hc]
      exact ⟨rfl, hnn⟩
    | cons m p' =>
      obtain ⟨hm, hp'⟩ := List.forall_mem_cons.mp hnn
      rw [pendingOf_cons p' hm, walkStride_consumer_some s st m hc]
      exact ⟨rfl, hp'⟩
