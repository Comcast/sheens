import Sheens.Oracle

/-!
# The executable oracle `satB` is sound for `Sat`

Simultaneous induction on the fuel for `satB/objSatB/arrEmbB` (`OracleSound n`, `oracle_succ`,
`oracle_all`); each arm of `satB` is one constructor of `Sat`.
-/

namespace Sheens.Total

theorem picks_pick {α : Type} {l : List α} {x : α} {rest : List α} (h : (x, rest) ∈ picks l) :
    Pick x l rest := by
  induction l generalizing x rest with
  | nil => cases h
  | cons y ys ih =>
    simp only [picks, List.mem_cons, List.mem_map] at h
    rcases h with h | ⟨⟨z, zs⟩, hm, he⟩
    · cases h; exact Pick.here
    · cases he; exact Pick.there (ih hm)

/-- soundness at fuel `n`, one field per function of the `mutual` block of `Oracle.lean` -/
structure OracleSound (bs₀ r : Bs) (n : Nat) : Prop where
  sat : ∀ {p f}, satB n bs₀ r p f = true → Sat bs₀ r p f
  obj : ∀ {pm fm}, objSatB n bs₀ r pm fm = true → ObjSat bs₀ r pm fm
  arr : ∀ {ps fs}, arrEmbB n bs₀ r ps fs = true → ArrEmb bs₀ r ps fs

variable {bs₀ r : Bs}

theorem satS_str {n} (ih : OracleSound bs₀ r n) {s : String} {f : V}
    (h : satB (n+1) bs₀ r (.str s) f = true) : Sat bs₀ r (.str s) f := by
  -- `h` evaluates to the string clause of `satB`, an `if` on `!isVar s`: `if_pos`, `if_neg` take
  -- its branch
  by_cases hv : (!isVar s) = true
  · replace h := (if_pos hv).symm.trans h
    split at h
    · next t =>
      obtain rfl : s = t := eq_of_beq h
      exact Sat.scalar hv rfl
    · cases h
  · replace h := (if_neg hv).symm.trans h
    have hv' : isVar s = true := by simpa using hv
    by_cases ha : isAnon s = true
    · obtain rfl : s = "?" := eq_of_beq ha
      exact Sat.anon
    · rw [if_neg ha] at h
      split at h
      · split at h
        · next op base bv a hio hlb hf =>
          split at h
          · next b cv hb hc =>
            simp only [Bool.and_eq_true, beq_iff_eq] at h
            exact Sat.ineq hio hlb hb hf h.1 hc h.2
          · cases h
        · cases h
      · next hi =>
        split at h
        · next b hl => exact Sat.var hv' (by simpa using hi) hl (ih.sat h)
        · cases h

theorem satS_obj {n} (ih : OracleSound bs₀ r n) {pm : List (String × V)} {f : V}
    (h : satB (n+1) bs₀ r (.obj pm) f = true) : Sat bs₀ r (.obj pm) f := by
  cases f with
  | obj fm =>
    -- the three cases of the object clause of `satB`, to which `h` evaluates
    match pm with
    | [] => exact Sat.objEmpty
    | [(k, pv)] =>
      by_cases hk : isVar k = true
      · replace h := (if_pos hk).symm.trans h
        simp only [List.any_eq_true, Bool.and_eq_true] at h
        obtain ⟨⟨fk, fv⟩, hm, h1, h2⟩ := h
        exact Sat.objProp hk hm (ih.sat h1) (ih.sat h2)
      · exact Sat.obj (ih.obj ((if_neg hk).symm.trans h))
    | _ :: _ :: _ => exact Sat.obj (ih.obj h)
  | _ => cases h

theorem oracle_succ {n} (ih : OracleSound bs₀ r n) : OracleSound bs₀ r (n+1) where
  sat := by
    intro p f h
    cases p with
    | null =>
      cases f with
      | null => exact Sat.scalar rfl rfl
      | _ => cases h
    | bool a =>
      cases f with
      | bool b => obtain rfl : a = b := eq_of_beq h; exact Sat.scalar rfl rfl
      | _ => cases h
    | num a =>
      cases f with
      | num b => obtain rfl : a = b := eq_of_beq h; exact Sat.scalar rfl rfl
      | _ => cases h
    | str s => exact satS_str ih h
    | obj pm => exact satS_obj ih h
    | arr ps =>
      cases f with
      | arr fs => exact Sat.arr (ih.arr h)
      | _ => cases h
    | _ => cases h
  obj := by
    intro pm fm h
    cases pm with
    | nil => exact ObjSat.nil
    | cons kv rest =>
      obtain ⟨k, pv⟩ := kv
      simp only [objSatB, Bool.and_eq_true, Bool.not_eq_true'] at h
      obtain ⟨⟨hk, hm⟩, hr⟩ := h
      cases hl : lookup k fm with
      | none => rw [hl] at hm; exact ObjSat.absent hk hl hm (ih.obj hr)
      | some fv => rw [hl] at hm; exact ObjSat.present hk hl (ih.sat hm) (ih.obj hr)
  arr := by
    intro ps fs h
    cases ps with
    | nil => exact ArrEmb.nil
    | cons p ps =>
      simp only [arrEmbB, Bool.or_eq_true, List.any_eq_true, Bool.and_eq_true] at h
      rcases h with ⟨⟨f, fs'⟩, hm, h1, h2⟩ | ⟨ho, h2⟩
      · exact ArrEmb.cons (picks_pick hm) (ih.sat h1) (ih.arr h2)
      · exact ArrEmb.skip ho (ih.arr h2)

theorem oracle_all (bs₀ r : Bs) : ∀ n, OracleSound bs₀ r n
  | 0 => ⟨nofun, nofun, nofun⟩
  | n+1 => oracle_succ (oracle_all bs₀ r n)

end Sheens.Total
