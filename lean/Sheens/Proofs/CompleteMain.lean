import Sheens.Proofs.CompleteLists

/-!
# Completeness (C02), part 3: along an embedding, every successful run contains a result `⊆ σ`

`MainF p f`: from bindings `bs ⊆ σ`, every `ok` answer of `matchF · p f bs` holds a result that is
still `⊆ σ` (and binds the non-optional variables of `p`).  One lemma per constructor of
`Emb / ObjEmb / ArrEmbX`; `main_all` assembles them with the recursor.
-/

namespace Sheens.Complete

/-- side conditions, fixed for the whole run -/
structure Side (bs₀ σ : Bs) (vs : List String) : Prop where
  pb : PB vs bs₀
  /-- extra hypothesis (`Sheens.C02.IneqBaseNum`): the counterpart of a numerically pre-bound
      inequality variable is, if `σ` assigns it at all, numeric -/
  ibn : ∀ v ∈ vs, ∀ op base bv c, ineqOf v = some (op, base) → lookup v bs₀ = some bv →
    (asNum bv).isSome = true → lookup base σ = some c → (asNum c).isSome = true
  goodσ : GoodBs σ

def MainF (bs₀ σ : Bs) (vs : List String) (p f : V) : Prop :=
  ∀ {bs}, Pre bs₀ σ vs (varsOf p) bs → p.plainPat = true → f.good = true → setLike f = true →
    Finds (matchF · p f bs) (Res bs₀ σ bs (varsOf p))

def MainKvs (bs₀ σ : Bs) (vs : List String) (pm fm : List (String × V)) : Prop :=
  ∀ {bss b}, b ∈ bss → Pre bs₀ σ vs (varsOfKvs pm) b → plainPatKvs pm = true → goodKvs fm = true →
    setLikeKvs fm = true → Finds (mapcat · bss pm fm) (Res bs₀ σ b (varsOfKvs pm))

/-- all-branches invariant: distinct indexes, and the number of facts still on offer -/
def Q (fxs : List Scalar) (k : Nat) : List Bs → List (Nat × V) → Prop :=
  fun _ mm => IdxNodup mm ∧ mm.length + fxs.length = k

/-- the branch that follows the embedding -/
structure GB (fs : List V) (fxs : List Scalar) (flag : Bool) (b : Bs) (bss : List Bs)
    (mm : List (Nat × V)) : Prop where
  mem : b ∈ bss
  perm : fs.Perm (remOf mm fxs)
  flag : flag = true → mm = []
  struct : ∀ e ∈ mm, e.2.scalar? = none

/-- an early exit, if any, is an `ok` -/
def NotBad {α : Type} (out : Sum MRes α) : Prop := ∀ r, out = .inl r → ∃ rs, r = .ok rs

/-- the loop over `xs` does not exit early, and the branch `(bss, mm)` that holds `b` and offers
    `fs` is followed by one that holds a result `r ⊆ σ` and offers `L` -/
def MainLoop (bs₀ σ : Bs) (vs : List String) (xs fs L : List V) : Prop :=
  ∀ {n fxs bsss fxas flag b bss mm},
    Pre bs₀ σ vs (varsOfList xs) b → (∀ x ∈ xs, x.plainPat = true) → (∀ x ∈ xs, isVarV x = false) →
    (∀ x ∈ fs, x.good = true ∧ setLike x = true) →
    (bss, mm) ∈ bsss.zip fxas → GB fs fxs flag b bss mm → Brs (Q fxs fs.length) bsss fxas →
    NotBad (loopXs n xs fxs bsss fxas flag) →
    ∃ fxs' bsss' fxas' r bss' mm', loopXs n xs fxs bsss fxas flag = .inr (fxs', bsss', fxas') ∧
      (bss', mm') ∈ bsss'.zip fxas' ∧ GB L fxs' flag r bss' mm' ∧ Res bs₀ σ b (varsOfList xs) r ∧
      Brs (Q fxs' L.length) bsss' fxas'

section
variable {bs₀ σ : Bs} {vs : List String}

section
variable {bs : Bs} {v : String} {f : V}

/-- the result is the unchanged bindings: `v` is anonymous or was bound already -/
theorem Res.here (hi : Inv bs₀ σ bs) (h : isAnon v = true ∨ lookup v bs ≠ none) :
    Res bs₀ σ bs [v] bs := by
  refine ⟨hi, Extends.refl _, fun _ h => Or.inl h, fun w hw _ ha => ?_⟩
  obtain rfl := List.mem_singleton.mp hw
  exact h.resolve_left (by simp [ha])

/-- the result for the variable `v` is the bindings with one more key `k`, bound as `σ` binds it:
    `k` is `v` itself, or `v` was bound already and `k` takes a scalar -/
theorem Res.cons_fresh {k : String} {x : V} (hi : Inv bs₀ σ bs) (hk : lookup k bs = none)
    (hσ : lookup k σ = some x)
    (hsrc : k = v ∨ Scal σ k ∧ lookup v bs ≠ none) : Res bs₀ σ bs [v] ((k, x) :: bs) := by
  have hext := extends_cons_fresh (v := x) hk
  refine ⟨⟨hi.ext0.trans hext, ?_⟩, hext, ?_, fun w hw _ _ => ?_⟩
  · intro k' w h
    simp only [lookup] at h
    split at h
    · next hkv => cases h; rw [hkv]; exact hσ
    · exact hi.sub k' w h
  · intro k' h
    simp only [lookup] at h
    split at h
    · next hkv => exact Or.inr (hkv ▸ hsrc.imp List.mem_singleton.mpr And.left)
    · exact Or.inl h
  · obtain rfl := List.mem_singleton.mp hw
    rcases hsrc with rfl | ⟨_, hb⟩
    · simp [lookup]
    · exact bound_mono hext hb

theorem scalar_self {p : V} {n : Nat} {rs : List Bs} (hc : isScalarConst p = true)
    (h : matchF n p p bs = .ok rs) : rs = [bs] := by
  cases n with
  | zero => simp at h
  | succ n =>
    cases p with
    | null | bool a | num a =>
      simp [matchF_succ, fudge, matchNull, matchBool, matchNum] at h; exact h.symm
    | str s =>
      have hv : isVar s = false := by simpa [isScalarConst] using hc
      cases n with
      | zero => simp [matchF_succ, fudge] at h
      | succ n => simp [matchF_succ, fudge, matchStr_succ, hv] at h; exact h.symm
    | _ => simp [isScalarConst] at hc

theorem scalarConst_of_good (hg : f.good = true) (hs : isScalarV f = true) :
    isScalarConst f = true := by
  cases f with
  | str s => exact hg
  | null | bool _ | num _ => rfl
  | _ => cases hs

theorem bound_scalar_self {n : Nat} {rs : List Bs} (hg : f.good = true)
    (hs : isScalarV f = true) (h : matchBound n f f bs = .ok rs) : rs = [bs] := by
  have hc := scalarConst_of_good hg hs
  cases n with
  | zero => simp at h
  | succ n =>
    simp only [matchBound_succ] at h
    split at h
    · next t =>
      have hv : isVar t = false := by simpa [isScalarConst] using hc
      rw [if_neg (by simp [hv])] at h
      exact scalar_self hc h
    · exact scalar_self hc h

theorem main_scalar {p f : V} (hc : isScalarConst p = true) (he : p = f) : MainF bs₀ σ vs p f := by
  intro bs hpre _ _ _ n rs h
  subst he
  obtain rfl := scalar_self hc h
  rw [scalarConst_vars hc]
  exact ⟨bs, List.mem_cons_self, Res.refl_nil hpre.inv⟩

theorem inequal_none_of_inactive (hS : Side bs₀ σ vs) (hv : v ∈ vs) (hinv : Inv bs₀ σ bs)
    (hia : ineqActive bs₀ σ v f = false) (hlk : lookup v bs = some f) : inequal f bs v = none := by
  unfold inequal
  rw [hlk]
  simp only
  cases ha : asNum f with
  | none => rfl
  | some a =>
    simp only
    cases hio : ineqOf v with
    | none => rfl
    | some ob =>
      obtain ⟨op, base⟩ := ob
      exfalso
      have hbv := prebound hS.pb ⟨hinv.ext0, fun k x h => hS.goodσ k x (hinv.sub k x h)⟩ hv hio hlk
      unfold ineqActive at hia
      rw [hio] at hia
      simp only [hbv, ha, Option.isSome_some, Bool.and_self, Bool.true_and] at hia
      cases hc : lookup base σ with
      | none => rw [hc] at hia; simp at hia
      | some c =>
        rw [hc] at hia
        simp only at hia
        have := hS.ibn v hv op base f c hio hbv (by rw [ha]; rfl) hc
        rw [hia] at this
        cases this

theorem main_var (hS : Side bs₀ σ vs) (hv : isVar v = true) (hvar : VarAt bs₀ σ v f) :
    MainF bs₀ σ vs (.str v) f := by
  intro bs hpre _ hg _ n rs h
  rw [varsOf_str_var hv] at hpre ⊢
  have hinv := hpre.inv
  cases n with
  | zero => simp at h
  | succ n =>
    simp only [matchF_succ, fudge_good hg, show fudge (V.str v) = V.str v from rfl] at h
    cases n with
    | zero => simp at h
    | succ n =>
      simp only [matchStr_succ, hv, Bool.not_true, Bool.false_eq_true, if_false] at h
      by_cases ha : isAnon v = true
      · rw [if_pos ha] at h
        cases h
        exact ⟨bs, List.mem_cons_self, Res.here hinv (Or.inl ha)⟩
      · rw [if_neg ha] at h
        rcases hvar with h1 | ⟨_, hia, hl⟩ | ⟨op, base, bv, b, a, cv, hio, hbv, hb, hfa, hrel, hcv, hca⟩
        · exact absurd h1 ha
        · cases hlk : lookup v bs with
          | none =>
            have hq : inequal f bs v = none := by unfold inequal; rw [hlk]
            rw [hq] at h
            simp only [hlk] at h
            cases h
            exact ⟨_, List.mem_cons_self, Res.cons_fresh hinv hlk hl (Or.inl rfl)⟩
          | some x =>
            obtain rfl : x = f := Option.some.inj ((hinv.sub _ _ hlk).symm.trans hl)
            have hq := inequal_none_of_inactive hS (hpre.vars v List.mem_cons_self) hinv
              hia hlk
            rw [hq] at h
            simp only [hlk] at h
            have hsc : isScalarV x = true :=
              hpre.ok v List.mem_cons_self (Or.inl (by rw [hlk]; simp)) x hl
            obtain rfl := bound_scalar_self hg hsc h
            exact ⟨bs, List.mem_cons_self, Res.here hinv (Or.inr (by simp [hlk]))⟩
        · have hlk : lookup v bs = some bv := hinv.ext0 _ _ hbv
          have hrel' : (!op.rel a b) = false := by rw [hrel]; rfl
          cases hc : lookup base bs with
          | some c' =>
            obtain rfl : c' = cv := Option.some.inj ((hinv.sub _ _ hc).symm.trans hcv)
            have hq : inequal f bs v = some [bs] := by
              unfold inequal
              simp only [hlk, hb, hfa, hio, hrel', hc, hca, Bool.false_eq_true, if_false, if_true]
            rw [hq] at h
            cases h
            exact ⟨bs, List.mem_cons_self, Res.here hinv (Or.inr (by simp [hlk]))⟩
          | none =>
            have hq : inequal f bs v = some [(base, .num a) :: bs] := by
              unfold inequal
              simp only [hlk, hb, hfa, hio, hrel', hc, Bool.false_eq_true, if_false]
            rw [hq] at h
            simp only at h
            cases h
            have hcvn : cv = .num a := asNum_good (hS.goodσ _ _ hcv) hca
            refine ⟨_, List.mem_cons_self,
              Res.cons_fresh hinv hc (hcvn ▸ hcv) (Or.inr ⟨fun y hy => ?_, by simp [hlk]⟩)⟩
            rw [hcv] at hy
            cases hy
            rw [hcvn]; rfl

end

section
variable {pm fm rest : List (String × V)} {k : String} {pv fv : V}

theorem fuel_of_ok {n : Nat} {f : V} {bs : Bs} {rs : List Bs}
    (h : matchF n (.obj pm) f bs = .ok rs) : ∃ m, matchObj (m+1) pm (fudge f) bs = .ok rs := by
  match n with
  | 0 => simp at h
  | 1 => simp [matchF_succ, fudge] at h
  | m+2 => exact ⟨m, h⟩

theorem main_objEmpty : MainF bs₀ σ vs (.obj []) (.obj fm) := by
  intro bs hpre _ _ _ n rs h
  obtain ⟨m, h⟩ := fuel_of_ok h
  cases h
  exact ⟨bs, List.mem_cons_self, Res.refl_nil hpre.inv⟩

theorem main_kvs_nil : MainKvs bs₀ σ vs [] fm := by
  intro bss b hb hpre _ _ _ n rs h
  cases n with
  | zero => simp at h
  | succ n =>
    cases h
    exact ⟨b, hb, Res.refl_nil hpre.inv⟩

theorem main_kvs_present (hk : isVar k = false) (hl : lookup k fm = some fv)
    (ih1 : MainF bs₀ σ vs pv fv) (ih2 : MainKvs bs₀ σ vs rest fm) :
    MainKvs bs₀ σ vs ((k, pv) :: rest) fm := by
  intro bss b hb hpre hpp hgm hsl n rs h
  rw [varsOfKvs_cons hk] at hpre ⊢
  simp only [plainPatKvs, Bool.and_eq_true] at hpp
  cases n with
  | zero => simp at h
  | succ n =>
    simp only [mapcat_cons, hk, Bool.false_eq_true, if_false, hl] at h
    have hF := with_finds hb
      (ih1 hpre.left hpp.1.1 (good_lookup hgm hl)
        (setLikeKvs_mem hsl (k, fv) (mem_of_lookup hl))) n
    split at h
    · next hW => obtain ⟨_, hr, _⟩ := hF [] hW; cases hr
    · next acc _ hW =>
      obtain ⟨r1, hr1, hres1⟩ := hF acc hW
      exact (ih2 hr1 (hpre.right hres1) hpp.2 hgm hsl).imp (fun _ => hres1.seq) n rs h
    · next hne => exact (hne _ h).elim

theorem main_kvs_absent (hk : isVar k = false) (hl : lookup k fm = none)
    (ho : isOptVar pv = true) (ih2 : MainKvs bs₀ σ vs rest fm) :
    MainKvs bs₀ σ vs ((k, pv) :: rest) fm := by
  intro bss b hb hpre hpp hgm hsl n rs h
  rw [varsOfKvs_cons hk] at hpre ⊢
  simp only [plainPatKvs, Bool.and_eq_true] at hpp
  cases n with
  | zero => simp at h
  | succ n =>
    simp only [mapcat_cons, hk, Bool.false_eq_true, if_false, hl, ho, if_true] at h
    refine (ih2 hb hpre.suffix hpp.2 hgm hsl).imp (fun r hres => ?_) n rs h
    refine hres.mono (fun x hx => List.mem_append_right _ hx) (fun x hx => ?_)
    rcases List.mem_append.mp hx with hx | hx
    · exact Or.inr (optVar_vars ho x hx)
    · exact Or.inl hx

theorem main_obj (hne : pm ≠ []) (hkeys : ∀ kv ∈ pm, isVar kv.1 = false)
    (ih2 : MainKvs bs₀ σ vs pm fm) : MainF bs₀ σ vs (.obj pm) (.obj fm) := by
  intro bs hpre hpp hg hsl n rs h
  obtain ⟨m, h⟩ := fuel_of_ok h
  rcases matchObj_arms pm fm bs with ⟨he, _⟩ | ⟨hb, _⟩ | ⟨k, v, rfl, hk, _⟩ | ⟨_, _, heq⟩
  · exact absurd he hne
  · rw [checkBadPropVars_false hkeys] at hb; cases hb
  · rw [hkeys (k, v) List.mem_cons_self] at hk; cases hk
  · rw [show fudge (V.obj fm) = V.obj fm from rfl, heq] at h
    exact ih2 List.mem_cons_self hpre hpp hg hsl m rs h

theorem main_objProp {fk : String} (hS : Side bs₀ σ vs) (hk : isVar k = true) (hm : (fk, fv) ∈ fm)
    (hvar : VarAt bs₀ σ k (.str fk)) (ih1 : MainF bs₀ σ vs pv fv) :
    MainF bs₀ σ vs (.obj [(k, pv)]) (.obj fm) := by
  intro bs hpre hpp hg hsl n rs h
  rw [varsOf_obj_single] at hpre ⊢
  have hpp' : pv.plainPat = true := by simpa [V.plainPat, plainPatKvs, keyFresh] using hpp
  have hfk := goodKvs_mem (fm := fm) hg (fk, fv) hm
  have hsv := setLikeKvs_mem (fm := fm) hsl (fk, fv) hm
  obtain ⟨n, h⟩ := fuel_of_ok h
  simp [matchObj_succ, fudge, checkBadPropVars, hk] at h
  exact gather_finds List.mem_cons_self
    (main_var hS hk hvar hpre.left rfl (by simpa [V.good] using hfk.1) rfl)
    (fun r1 hres1 => (ih1 (hpre.right hres1) hpp' hfk.2 hsv).imp fun _ => hres1.seq) hm n rs h

end

/-- an element of an array pattern that is no variable is embedded into a value of its own kind -/
theorem emb_scalar? {x f : V} (he : Emb bs₀ σ x f) (hnv : isVarV x = false) :
    f.scalar? = x.scalar? := by
  cases he with
  | scalar _ heq => rw [heq]
  | var hv _ => rw [isVarV, hv] at hnv; cases hnv
  | objEmpty | objProp _ _ _ _ | obj _ _ | arr _ _ _ => rfl

section
variable {mm : List (Nat × V)} {fxs : List Scalar} {j : Nat} {fact : V}

theorem filter_step (hn : IdxNodup mm) (hm : (j, fact) ∈ mm) :
    IdxNodup (mm.filter (fun e => e.1 != j)) ∧
      (mm.filter (fun e => e.1 != j)).length + 1 = mm.length := by
  obtain ⟨a, c, hab, hf⟩ := split_of_mem hn hm
  rw [hf]
  refine ⟨?_, ?_⟩
  · rw [hab] at hn; exact idxNodup_remove a hn
  · rw [hab, List.length_append, List.length_append]; rfl

theorem remOf_remove (hn : IdxNodup mm) (hm : (j, fact) ∈ mm) :
    (remOf mm fxs).Perm (fact :: remOf (mm.filter (fun e => e.1 != j)) fxs) := by
  obtain ⟨a, c, hab, hf⟩ := split_of_mem hn hm
  rw [hf, hab]
  simp only [remOf, List.map_append, List.map_cons, List.append_assoc, List.cons_append]
  exact List.perm_middle

theorem remOf_erase {sc : Scalar} (hm : sc ∈ fxs) :
    (remOf mm fxs).Perm (sc.toV :: remOf mm (fxs.erase sc)) := by
  have h1 : (fxs.map Scalar.toV).Perm (sc.toV :: (fxs.erase sc).map Scalar.toV) :=
    (List.perm_cons_erase hm).map Scalar.toV
  unfold remOf
  exact (List.Perm.append_left _ h1).trans List.perm_middle

theorem mem_remOf {f : V} :
    f ∈ remOf mm fxs ↔ (∃ j, (j, f) ∈ mm) ∨ ∃ sc ∈ fxs, sc.toV = f := by
  unfold remOf
  rw [List.mem_append, List.mem_map, List.mem_map]
  constructor
  · rintro (⟨e, he, rfl⟩ | h)
    · exact Or.inl ⟨e.1, he⟩
    · exact Or.inr h
  · rintro (⟨j, hj⟩ | h)
    · exact Or.inl ⟨(j, f), hj, rfl⟩
    · exact Or.inr h

end

theorem leftovers_has {ss : List Scalar} {sc : Scalar} (h : sc ∈ ss) :
    ∀ i, ∃ j, (j, sc.toV) ∈ leftovers ss i := by
  induction ss with
  | nil => cases h
  | cons s ss ih =>
    intro i
    simp only [leftovers]
    rcases List.mem_cons.mp h with rfl | h
    · exact ⟨i, List.mem_cons_self⟩
    · obtain ⟨j, hj⟩ := ih h (i+1)
      exact ⟨j, List.mem_cons_of_mem _ hj⟩

theorem main_loop_nil {fs : List V} : MainLoop bs₀ σ vs [] fs fs := by
  intro n fxs bsss fxas flag b bss mm hpre _ _ _ hmb hgb hQ hnb
  cases n with
  | zero =>
    obtain ⟨rs, hrs⟩ := hnb .diverge rfl
    cases hrs
  | succ n =>
    exact ⟨fxs, bsss, fxas, b, bss, mm, by simp [loopXs_nil], hmb, hgb, Res.refl_nil hpre.inv, hQ⟩

theorem main_loop_cons {x f : V} {xs fs fs' L : List V} (hpick : Pick f fs fs')
    (hemb : Emb bs₀ σ x f) (ih1 : MainF bs₀ σ vs x f) (ih3 : MainLoop bs₀ σ vs xs fs' L) :
    MainLoop bs₀ σ vs (x :: xs) fs L := by
  intro n fxs bsss fxas flag b bss mm hpre hpp hnv hfs hmb hgb hQ hnb
  have hW : varsOfList (x :: xs) = varsOf x ++ varsOfList xs := rfl
  rw [hW] at hpre ⊢
  have hperm := hpick.perm
  have hlen : fs.length = fs'.length + 1 := hperm.length_eq
  have hfmem : f ∈ remOf mm fxs := hgb.perm.mem_iff.mp hpick.mem
  have hfs' : ∀ y ∈ fs', y.good = true ∧ setLike y = true := fun y hy => hfs y (hpick.sub y hy)
  have hpp' : ∀ y ∈ xs, y.plainPat = true := fun y hy => hpp y (List.mem_cons_of_mem _ hy)
  have hnv' : ∀ y ∈ xs, isVarV y = false := fun y hy => hnv y (List.mem_cons_of_mem _ hy)
  have hfx := emb_scalar? hemb (hnv x List.mem_cons_self)
  cases n with
  | zero =>
    obtain ⟨rs, hrs⟩ := hnb .diverge rfl
    cases hrs
  | succ n =>
    cases hsc : x.scalar? with
    | some sc =>
      obtain rfl : f = sc.toV := scalar_toV (hfx.trans hsc)
      have hscm : sc ∈ fxs := by
        rcases mem_remOf.mp hfmem with ⟨j, hj⟩ | ⟨s, hs, hst⟩
        · have := hgb.struct _ hj
          simp only at this
          rw [toV_scalar] at this
          cases this
        · rw [← toV_inj hst]; exact hs
      rw [scalarConst_vars (scalar_const hsc (hnv x List.mem_cons_self))] at hpre ⊢
      simp only [loopXs_cons, hsc, List.contains_iff_mem.mpr hscm, if_true] at hnb ⊢
      have hgb' : GB fs' (fxs.erase sc) flag b bss mm :=
        ⟨hgb.mem, (hperm.symm.trans (hgb.perm.trans (remOf_erase hscm))).cons_inv, hgb.flag,
          hgb.struct⟩
      have hQ' : Brs (Q (fxs.erase sc) fs'.length) bsss fxas := by
        refine hQ.imp ?_
        rintro _ mm0 ⟨h1, h2⟩
        rw [(List.perm_cons_erase hscm).length_eq, hlen] at h2
        exact ⟨h1, Nat.succ.inj h2⟩
      exact ih3 hpre hpp' hnv' hfs' hmb hgb' hQ' hnb
    | none =>
      have hfsc : f.scalar? = none := hfx.trans hsc
      obtain ⟨j, hj⟩ : ∃ j, (j, f) ∈ mm := by
        rcases mem_remOf.mp hfmem with h | ⟨s, _, hst⟩
        · exact h
        · rw [← hst, toV_scalar] at hfsc; cases hfsc
      obtain rfl : flag = false :=
        Bool.eq_false_iff.mpr fun h => by rw [hgb.flag h] at hj; cases hj
      cases hcat : arraycat n bsss x fxas with
      | inl r =>
        obtain ⟨rs, hrs⟩ := hnb r (by
          simp only [loopXs_cons, hsc, hcat, Bool.false_eq_true, if_false])
        exact absurd hrs (arraycat_inl _ _ _ _ _ hcat rs)
      | inr y =>
        obtain ⟨bsss1, fxas1⟩ := y
        obtain ⟨acc, hmb1, r1, hr1, hres1⟩ := cat_finds hj hgb.mem
          (ih1 hpre.left (hpp x List.mem_cons_self) (hfs f hpick.mem).1 (hfs f hpick.mem).2) hmb hcat
        simp only [loopXs_cons, hsc, hcat, isEmpty_of_mem_zip hmb1, Bool.false_eq_true, if_false]
          at hnb ⊢
        have hgb' : GB fs' fxs false r1 acc (mm.filter (fun e => e.1 != j)) :=
          ⟨hr1, (hperm.symm.trans (hgb.perm.trans (remOf_remove (hQ.of_mem_zip hmb).1 hj))).cons_inv,
            nofun, fun e he => hgb.struct e (List.mem_filter.mp he).1⟩
        have hQ' : Brs (Q fxs fs'.length) bsss1 fxas1 := by
          refine (arraycat_run hQ hcat).imp ?_
          rintro _ mm' ⟨bss0, mm0, ⟨hn0, hl0⟩, j0, fact0, hm0, he0, _⟩
          obtain ⟨h1, h2⟩ := filter_step hn0 hm0
          rw [← h2, hlen, Nat.add_right_comm] at hl0
          exact he0 ▸ ⟨h1, Nat.add_right_cancel hl0⟩
        obtain ⟨fxs', bsss', fxas', r, bss', mm', e1, e2, e3, e4, e5⟩ :=
          ih3 (hpre.right hres1) hpp' hnv' hfs' hmb1 hgb' hQ' hnb
        exact ⟨fxs', bsss', fxas', r, bss', mm', e1, e2, e3, hres1.seq e4, e5⟩

theorem main_arr {ps xs fs L : List V} {vo : Option String} (hS : Side bs₀ σ vs)
    (hvar : match vo with
      | none => True
      | some v => (∃ f ∈ L, VarAt bs₀ σ v f) ∨ (isOptVar (.str v) = true ∧ L = []))
    (hgv : getVariable ps none [] = .ok (vo, xs)) (harr : ArrEmbX bs₀ σ xs fs L)
    (ih3 : MainLoop bs₀ σ vs xs fs L) : MainF bs₀ σ vs (.arr ps) (.arr fs) := by
  intro bs hpre hpp hg hsl n rs h
  have hpp' : plainPatList ps = true := hpp
  have hfa : goodList fs = true := hg
  have hsl' : scalarsNodup fs = true ∧ setLikeList fs = true := Bool.and_eq_true_iff.mp hsl
  have hfs : ∀ x ∈ fs, x.good = true ∧ setLike x = true :=
    fun x hx => ⟨goodList_mem hfa x hx, setLikeList_mem hsl'.2 x hx⟩
  cases n with
  | zero => simp at h
  | succ n =>
    simp only [matchF_succ, show fudge (V.arr ps) = V.arr ps from rfl,
      show fudge (V.arr fs) = V.arr fs from rfl] at h
    cases n with
    | zero => simp at h
    | succ n =>
      simp only [matchArr_succ, hgv] at h
      have hperm0 := index_perm0 hsl'.1
      have hgb : GB fs (indexScalars fs []) (indexStruct fs 0).isEmpty bs [bs]
          (indexStruct fs 0) :=
        ⟨List.mem_cons_self, hperm0, fun h => List.isEmpty_iff.mp h,
          fun e he => indexStruct_struct he⟩
      have hQ : Brs (Q (indexScalars fs []) fs.length) [[bs]] [indexStruct fs 0] := by
        refine Brs.cons ⟨indexStruct_nodup, ?_⟩ Brs.nil
        rw [hperm0.length_eq, remOf, List.length_append, List.length_map, List.length_map]
      have hnb : NotBad (loopXs n xs (indexScalars fs []) [[bs]] [indexStruct fs 0]
          (indexStruct fs 0).isEmpty) := by
        intro r hr
        rw [hr] at h
        exact ⟨rs, h⟩
      obtain ⟨hnv, hps⟩ := getVariable_spec hgv
      cases vo with
      | none =>
        simp only at hps
        subst hps
        obtain ⟨fxs', bsss', fxas', r, bss', mm', e1, e2, e3, e4, _⟩ :=
          ih3 hpre (plainPatList_mem hpp') hnv hfs List.mem_cons_self hgb hQ hnb
        rw [e1] at h
        cases h
        exact ⟨r, List.mem_flatten.mpr ⟨bss', (List.of_mem_zip e2).1, e3.mem⟩, e4⟩
      | some s =>
        obtain ⟨hsv, hps⟩ := hps
        -- the variables in the order the code visits them: the other elements first, then `s`
        have hpv : (varsOfList xs ++ varsOf (.str s)).Perm (varsOfList ps) :=
          List.perm_append_comm.trans (varsOfList_perm hps).symm
        have hpre' := hpre.perm hpv.symm
        obtain ⟨fxs', bsss', fxas', r, bss', mm', e1, e2, e3, e4, e5⟩ :=
          ih3 hpre'.left
            (fun x hx => plainPatList_mem hpp' x (hps.mem_iff.mpr (List.mem_cons_of_mem _ hx)))
            hnv hfs List.mem_cons_self hgb hQ hnb
        rw [e1] at h
        simp only at h
        cases hcat : arraycat n bsss' (.str s)
            (fxas'.map (fun m => m ++ leftovers fxs' fs.length)) with
        | inl r' =>
          simp only [hcat] at h
          exact absurd h (arraycat_inl _ _ _ _ _ hcat rs)
        | inr y =>
          obtain ⟨bsss2, f2⟩ := y
          simp only [hcat] at h
          rcases hvar with ⟨f, hfL, hva⟩ | ⟨hopt, hL⟩
          · obtain ⟨j, hj⟩ : ∃ j, (j, f) ∈ mm' ++ leftovers fxs' fs.length := by
              rcases mem_remOf.mp (e3.perm.mem_iff.mp hfL) with ⟨j, hj⟩ | ⟨sc, hsc, hst⟩
              · exact ⟨j, List.mem_append_left _ hj⟩
              · obtain ⟨j, hj⟩ := leftovers_has hsc fs.length
                rw [hst] at hj
                exact ⟨j, List.mem_append_right _ hj⟩
            have hfg := hfs f (harr.sub f hfL)
            obtain ⟨acc, hmb3, r2, hr2, hres2⟩ :=
              cat_finds hj e3.mem (main_var hS hsv hva (hpre'.right e4) rfl hfg.1 hfg.2)
                (List.zip_map_right ▸ List.mem_map_of_mem (f := Prod.map id _) e2) hcat
            rw [isEmpty_of_mem_zip hmb3] at h
            simp only [Bool.false_and, Bool.false_eq_true, if_false] at h
            cases h
            exact ⟨r2, List.mem_flatten.mpr ⟨acc, (List.of_mem_zip hmb3).1, hr2⟩,
              (e4.seq hres2).perm hpv⟩
          · subst hL
            -- nothing is left over, so no branch has a fact to offer
            obtain rfl : bsss2 = [] := by
              refine cat_empty (e5.map_right _ ?_) hcat
              rintro _ mm0 ⟨_, hl⟩
              obtain ⟨h1, h2⟩ := Nat.add_eq_zero_iff.mp hl
              rw [List.eq_nil_of_length_eq_zero h1, List.eq_nil_of_length_eq_zero h2]; rfl
            simp only [List.isEmpty_nil, hopt, Bool.and_self, if_true] at h
            cases h
            refine ⟨r, List.mem_flatten.mpr ⟨bss', (List.of_mem_zip e2).1, e3.mem⟩, e4.mono
              (fun v hv => hpv.mem_iff.mp (List.mem_append_left _ hv)) (fun v hv => ?_)⟩
            exact (List.mem_append.mp (hpv.mem_iff.mpr hv)).imp_right
              (fun h => optVar_vars hopt v h)

theorem main_all (hS : Side bs₀ σ vs) {p f : V} (h : Emb bs₀ σ p f) : MainF bs₀ σ vs p f :=
  Emb.rec (bs₀ := bs₀) (σ := σ)
    (motive_1 := fun p f _ => MainF bs₀ σ vs p f)
    (motive_2 := fun pm fm _ => MainKvs bs₀ σ vs pm fm)
    (motive_3 := fun xs fs L _ => MainLoop bs₀ σ vs xs fs L)
    main_scalar
    (main_var hS)
    main_objEmpty
    (fun hk hm hvar _ => main_objProp hS hk hm hvar)
    (fun hne hobj => main_obj hne hobj.keys_nonvar)
    (fun hgv harr hvar => main_arr hS hvar hgv harr)
    main_kvs_nil
    (fun hk hl _ _ => main_kvs_present hk hl)
    (fun hk hl ho _ => main_kvs_absent hk hl ho)
    main_loop_nil
    (fun hpick hemb _ => main_loop_cons hpick hemb)
    h

end

end Sheens.Complete
