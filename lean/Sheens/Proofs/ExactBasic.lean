import Sheens.Proofs.CompleteBasic

/-!
# Exact soundness of the matcher (C02, second sentence): bookkeeping

For a *linear* pattern whose variables are *plain* (neither optional nor inequality-named) and a
run that starts from bindings in which no variable of the pattern is bound, every variable position
is reached with that variable still unbound; the matcher then conses `(v, message value)`.

* `Lin vs`      : the non-anonymous names of `vs` are pairwise distinct
* `PV vs`       : no name of `vs` is optional or inequality-named
* `Fresh vs bs` : no non-anonymous name of `vs` is bound in `bs`
* `XPre vs bs`  : the three together: what a run over a pattern part with variables `vs` starts from
* `XPost vs bs r` : `r` extends `bs` and the new keys are non-anonymous names of `vs`

plus monotonicity of `Emb` in the assignment.
-/

namespace Sheens.Exact

def Lin (vs : List String) : Prop := (vs.filter (fun v => !isAnon v)).Nodup

def PV (vs : List String) : Prop := ∀ v ∈ vs, isOptVar (.str v) = false ∧ ineqOf v = none

def Fresh (vs : List String) (bs : Bs) : Prop := ∀ v ∈ vs, isAnon v = false → lookup v bs = none

structure XPost (vs : List String) (bs r : Bs) : Prop where
  ext  : Extends bs r
  keys : ∀ k, lookup k r ≠ none → lookup k bs ≠ none ∨ (k ∈ vs ∧ isAnon k = false)

variable {a b : List String}

theorem Lin.append (h : Lin (a ++ b)) :
    Lin a ∧ Lin b ∧ ∀ v ∈ a, v ∈ b → isAnon v = true := by
  unfold Lin at h ⊢
  rw [List.filter_append, List.nodup_append] at h
  refine ⟨h.1, h.2.1, fun v ha hb => ?_⟩
  cases hn : isAnon v with
  | true => rfl
  | false =>
    have hv : (!isAnon v) = true := by rw [hn]; rfl
    exact absurd rfl (h.2.2 v (List.mem_filter.mpr ⟨ha, hv⟩) v (List.mem_filter.mpr ⟨hb, hv⟩))

theorem Lin.perm (hp : a.Perm b) (h : Lin a) : Lin b := by
  unfold Lin at h ⊢
  exact ((hp.filter _).nodup_iff).mp h

theorem Lin.nil : Lin [] := by simp [Lin]

theorem PV.sub (hs : ∀ v ∈ a, v ∈ b) (h : PV b) : PV a :=
  fun v hv => h v (hs v hv)

theorem Fresh.sub {bs : Bs} (hs : ∀ v ∈ a, v ∈ b) (h : Fresh b bs) : Fresh a bs :=
  fun v hv => h v (hs v hv)

theorem XPost.refl {vs : List String} {bs : Bs} : XPost vs bs bs :=
  ⟨Extends.refl _, fun _ h => Or.inl h⟩

theorem XPost.sub {bs r : Bs} (hs : ∀ v ∈ a, v ∈ b) (h : XPost a bs r) : XPost b bs r :=
  ⟨h.ext, fun k hk => by
    rcases h.keys k hk with h' | ⟨h1, h2⟩
    · exact Or.inl h'
    · exact Or.inr ⟨hs k h1, h2⟩⟩

theorem XPost.seq {bs r1 r2 : Bs} (h1 : XPost a bs r1) (h2 : XPost b r1 r2) :
    XPost (a ++ b) bs r2 :=
  ⟨h1.ext.trans h2.ext, fun k hk => by
    rcases h2.keys k hk with h' | ⟨h3, h4⟩
    · rcases h1.keys k h' with h'' | ⟨h3, h4⟩
      · exact Or.inl h''
      · exact Or.inr ⟨List.mem_append_left _ h3, h4⟩
    · exact Or.inr ⟨List.mem_append_right _ h3, h4⟩⟩

/-- after the part `a` has been processed, the variables of the part `b` are still unbound -/
theorem Fresh.step {bs r : Bs} (hf : Fresh (a ++ b) bs) (hl : Lin (a ++ b))
    (hp : XPost a bs r) : Fresh b r := by
  intro v hv hn
  cases hr : lookup v r with
  | none => rfl
  | some x =>
    exfalso
    rcases hp.keys v (by rw [hr]; simp) with h | ⟨h1, _⟩
    · exact h (hf v (List.mem_append_right _ hv) hn)
    · rw [hl.append.2.2 v h1 hv] at hn; cases hn

structure XPre (vs : List String) (bs : Bs) : Prop where
  lin : Lin vs
  pv : PV vs
  fresh : Fresh vs bs

theorem XPre.left {bs : Bs} (h : XPre (a ++ b) bs) : XPre a bs :=
  ⟨h.lin.append.1, h.pv.sub fun _ hx => List.mem_append_left _ hx,
    h.fresh.sub fun _ hx => List.mem_append_left _ hx⟩

/-- the precondition for the variables `b` that remain, once the part `a` has ended in `r` -/
theorem XPre.right {bs r : Bs} (h : XPre (a ++ b) bs) (hp : XPost a bs r) :
    XPre b r :=
  ⟨h.lin.append.2.1, h.pv.sub fun _ hx => List.mem_append_right _ hx, h.fresh.step h.lin hp⟩

theorem XPre.perm {bs : Bs} (hp : a.Perm b) (h : XPre a bs) : XPre b bs :=
  ⟨h.lin.perm hp, h.pv.sub fun _ hx => hp.mem_iff.mpr hx, h.fresh.sub fun _ hx => hp.mem_iff.mpr hx⟩

theorem _root_.VarAt.mono {bs₀ r r' : Bs} (he : Extends r r') {v : String} {f : V}
    (h : VarAt bs₀ r v f) : VarAt bs₀ r' v f := by
  rcases h with h | ⟨h1, h2, h3⟩ | ⟨op, base, bv, b, a, cv, h1, h2, h3, h4, h5, h6, h7⟩
  · exact Or.inl h
  · exact Or.inr (Or.inl ⟨h1, ineqActive_mono he h2, he _ _ h3⟩)
  · exact Or.inr (Or.inr ⟨op, base, bv, b, a, cv, h1, h2, h3, h4, h5, he _ _ h6, h7⟩)

/-- `Emb`, `ObjEmb` and `ArrEmbX` are monotone in the assignment.  The three recursors take the same
    cases, given once (as for `sat_mono`). -/
theorem emb_mono {bs₀ r r' : Bs} (he : Extends r r') :
    (∀ {p f}, Emb bs₀ r p f → Emb bs₀ r' p f) ∧
    (∀ {pm fm}, ObjEmb bs₀ r pm fm → ObjEmb bs₀ r' pm fm) ∧
    (∀ {ps fs L}, ArrEmbX bs₀ r ps fs L → ArrEmbX bs₀ r' ps fs L) := by
  refine ⟨@Emb.rec bs₀ r _ _ _
      ?scalar ?var ?objEmpty ?objProp ?obj ?arr ?nil ?present ?absent ?anil ?cons,
    @ObjEmb.rec bs₀ r _ _ _
      ?scalar ?var ?objEmpty ?objProp ?obj ?arr ?nil ?present ?absent ?anil ?cons,
    @ArrEmbX.rec bs₀ r _ _ _
      ?scalar ?var ?objEmpty ?objProp ?obj ?arr ?nil ?present ?absent ?anil ?cons⟩
  case scalar => exact .scalar
  case var => exact fun hv hva => .var hv (hva.mono he)
  case objEmpty => exact .objEmpty
  case objProp => exact fun hk hm hva _ ih => .objProp hk hm (hva.mono he) ih
  case obj => exact fun hne _ ih => .obj hne ih
  case arr =>
    intro ps vo xs fs L hg _ hvo ih
    refine .arr hg ih ?_
    cases vo with
    | none => trivial
    | some v => exact hvo.imp_left fun ⟨f, hf, hva⟩ => ⟨f, hf, hva.mono he⟩
  case nil => exact .nil
  case present => exact fun hk hl _ _ ih ihr => .present hk hl ih ihr
  case absent => exact fun hk hl ho _ ihr => .absent hk hl ho ihr
  case anil => exact .nil
  case cons => exact fun hp _ _ ih ihr => .cons hp ih ihr

theorem _root_.Emb.mono {bs₀ r r' : Bs} (he : Extends r r') :
    ∀ {p f}, Emb bs₀ r p f → Emb bs₀ r' p f :=
  (emb_mono he).1

theorem _root_.ObjEmb.mono {bs₀ r r' : Bs} (he : Extends r r') :
    ∀ {pm fm}, ObjEmb bs₀ r pm fm → ObjEmb bs₀ r' pm fm :=
  (emb_mono he).2.1

theorem _root_.ArrEmbX.mono {bs₀ r r' : Bs} (he : Extends r r') {ps fs L : List V}
    (h : ArrEmbX bs₀ r ps fs L) : ArrEmbX bs₀ r' ps fs L :=
  (emb_mono he).2.2 h

/-- a variable pattern is embedded only by `VarAt` -/
theorem _root_.Emb.var_inv {bs₀ r : Bs} {v : String} {f : V} (hv : isVar v = true)
    (h : Emb bs₀ r (.str v) f) : VarAt bs₀ r v f := by
  cases h with
  | scalar hc _ => simp [isScalarConst, hv] at hc
  | var _ hva => exact hva

end Sheens.Exact
