import Sheens.SioCrew
import Sheens.Proofs.AssocLemmas

/-! # Lemmas about the single-loop crew model: `dedup`, `runMachine`, one round of `runMachines` -/

namespace Sio

theorem mem_dedup {l : List String} {x : String} : x ∈ dedup l ↔ x ∈ l := by
  induction l with
  | nil => rfl
  | cons y ys ih => by_cases h : x = y <;> simp [dedup, List.mem_filter, ih, h]

theorem dedup_nodup (l : List String) : (dedup l).Nodup := by
  induction l with
  | nil => exact List.nodup_nil
  | cons y ys ih =>
    rw [dedup, List.nodup_cons]
    exact ⟨by simp, ih.filter _⟩

/-- the body of the `RunMachines` loop -/
def rmStep (resolve : V → Option Spec) (asOp : V → Option CrewOp) (msg : V)
    (acc : Crew × List (List V)) (mid : String) : Crew × List (List V) :=
  let (c, batches) := acc
  if mid == captainId then
    (match find mid c.machines, asOp msg with
     | some _, some op => (doOp resolve c op, batches)
     | _, _ => (c, batches))
  else if mid == timersId then (c, batches)
  else
    match find mid c.machines with
    | none => (c, batches)
    | some m =>
      let (c', em) := runMachine c mid m msg
      (c', if em.isEmpty then batches else batches ++ [em])

theorem runMachines_eq (resolve : V → Option Spec) (asOp : V → Option CrewOp) (c : Crew) (msg : V) :
    runMachines resolve asOp c msg = (dedup (toMachines c msg)).foldl (rmStep resolve asOp msg) (c, []) := rfl

/-- the state a machine is left in by one walk of one message -/
def walked (c : Crew) (m : Machine) (msg : V) : Option State :=
  m.spec.bind fun spec => (lastTo (walk spec m.state [msg] c.limit (fun _ => false)).strides).map stateCopy

/-- `runMachine` leaves the crew as it is, or writes the machine's new state and records the change -/
theorem runMachine_crew (c : Crew) (mid : String) (m : Machine) (msg : V) :
    (runMachine c mid m msg).1 =
      match walked c m msg with
      | none => c
      | some t => { c with machines := put mid { m with state := t } c.machines,
                           changed := put mid { (changeOf c mid) with state := some t } c.changed } := by
  unfold runMachine walked
  cases m.spec with
  | none => rfl
  | some spec => simp only [Option.bind_some]; cases lastTo _ <;> rfl

variable {resolve : V → Option Spec} {msg : V} {acc : Crew × List (List V)}

/-- without crew operations, one step of the loop leaves the crew as it is or runs the machine it visits -/
theorem rmStep_crew (resolve : V → Option Spec) (msg : V) (acc : Crew × List (List V)) (mid : String) :
    (rmStep resolve (fun _ => none) msg acc mid).1 = acc.1 ∨
      ∃ m, (rmStep resolve (fun _ => none) msg acc mid).1 = (runMachine acc.1 mid m msg).1 := by
  obtain ⟨c, batches⟩ := acc
  dsimp only [rmStep]
  by_cases h1 : (mid == captainId) = true
  · rw [if_pos h1]
    cases find mid c.machines <;> exact .inl rfl
  · rw [if_neg h1]
    by_cases h2 : (mid == timersId) = true
    · rw [if_pos h2]
      exact .inl rfl
    · rw [if_neg h2]
      cases find mid c.machines with
      | none => exact .inl rfl
      | some m => exact .inr ⟨m, rfl⟩

/-- … so it keeps the limit and touches no other machine -/
theorem rmStep_frame (resolve : V → Option Spec) (msg : V) (acc : Crew × List (List V)) (mid : String) :
    (rmStep resolve (fun _ => none) msg acc mid).1.limit = acc.1.limit ∧
      ∀ k, k ≠ mid → find k (rmStep resolve (fun _ => none) msg acc mid).1.machines = find k acc.1.machines := by
  rcases rmStep_crew resolve msg acc mid with e | ⟨m, e⟩ <;> rw [e]
  · exact ⟨rfl, fun _ _ => rfl⟩
  · rw [runMachine_crew]
    cases walked acc.1 m msg with
    | none => exact ⟨rfl, fun _ _ => rfl⟩
    | some t => exact ⟨rfl, fun _ => find_put_ne⟩

theorem rmFold_find_notin {k : String} {l : List String} (h : k ∉ l) :
    find k (l.foldl (rmStep resolve (fun _ => none) msg) acc).1.machines = find k acc.1.machines :=
  List.foldlRecOn (motive := fun b => find k b.1.machines = find k acc.1.machines) l _ rfl
    fun b hb x hx => ((rmStep_frame resolve msg b x).2 k fun e => h (e ▸ hx)).trans hb

theorem rmFold_limit (l : List String) :
    (l.foldl (rmStep resolve (fun _ => none) msg) acc).1.limit = acc.1.limit :=
  List.foldlRecOn (motive := fun b => b.1.limit = acc.1.limit) l _ rfl
    fun b hb x _ => (rmStep_frame resolve msg b x).1.trans hb

theorem rmStep_find_self {asOp : V → Option CrewOp} {mid : String} {m : Machine} {spec : Spec}
    (hc : mid ≠ captainId) (ht : mid ≠ timersId)
    (hm : find mid acc.1.machines = some m) (hs : m.spec = some spec) :
    find mid (rmStep resolve asOp msg acc mid).1.machines =
      some (match lastTo (walk spec m.state [msg] acc.1.limit (fun _ => false)).strides with
            | some t => { m with state := stateCopy t }
            | none => m) := by
  obtain ⟨c, batches⟩ := acc
  dsimp only [rmStep] at hm ⊢
  rw [if_neg (by simpa using hc), if_neg (by simpa using ht), hm]
  dsimp only
  rw [runMachine_crew, walked, hs, Option.bind_some]
  cases lastTo _ with
  | none => exact hm
  | some t => exact find_put_self

end Sio
