import Sheens.Proofs.OwnStep

/-!
# `stepH`: one lemma with everything (C06)

`stepH` is cut into the action part (`actionH`) and the part after it (`finishH`), exactly as the
text of `stepH` reads (`stepH_eq` is `rfl`); the pure `step` is cut the same way in
`Proofs/EngineLemmas.lean` (`actionP`, `stepRest`, and the case lemmas `step_noaction`,
`step_action`, …).  `StrideOk n0 h sd` says: the maps of the stride's `From` and `To` exist in `h`,
`From`'s was handed out at or after `n0` and `To`'s after it (so they are two different maps:
`StrideOk.fresh`).  `Started h h5 st fa` is what every
part after `stride.From = st.Copy()` knows.
-/

namespace Sheens.C06
open Own

/-! ## strides whose maps exist -/

/-- the map of `From` exists in `h` and was handed out at or after `n0`; the map of `To` exists and
    was handed out after it -/
def StrideOk (n0 : Nat) (h : Heap) (sd : StrideH) : Prop :=
  ∃ a, sd.frm.bs = some a ∧ n0 ≤ a ∧ Alloc h a ∧
    ∀ t, sd.to = some t → ∃ b, t.bs = some b ∧ a < b ∧ Alloc h b

/-- in the words of `stepH_fresh` and `walkH_fresh` -/
theorem StrideOk.fresh {n0 : Nat} {h : Heap} {sd : StrideH} (hk : StrideOk n0 h sd) :
    (∃ a, sd.frm.bs = some a ∧ n0 ≤ a ∧ (h.get a).isSome) ∧
    (∀ t, sd.to = some t → ∃ b, t.bs = some b ∧ n0 ≤ b ∧ sd.frm.bs ≠ some b ∧ (h.get b).isSome) := by
  obtain ⟨a, hf, hn, ha, hto⟩ := hk
  refine ⟨⟨a, hf, hn, ha.2⟩, fun t ht => ?_⟩
  obtain ⟨b, hb1, hb2, hb3⟩ := hto t ht
  refine ⟨b, hb1, Nat.le_trans hn (Nat.le_of_lt hb2), ?_, hb3.2⟩
  rw [hf]
  rintro ⟨⟩
  exact Nat.lt_irrefl _ hb2

/-- `e.Bs == nil: e.Bs = NewBindings()` -/
def ensureH (h1 : Heap) (exe : Option (Option Addr × List V)) : Heap × Addr × List V :=
  match exe with
  | none => let (hh, x) := h1.alloc []; (hh, x, [])
  | some (none, em) => let (hh, x) := h1.alloc []; (hh, x, em)
  | some (some b, em) => (h1, b, em)

/-- what follows from an action's error, heap level -/
def actionErrH (s : SpecH) (st : StateH) (stride0 : StrideH) (e : String) (emitted : List V)
    (h2 : Heap) : Heap × Sum StepOutH (Option Addr × List V) :=
  let (h3, b2) := copyH h2 st.bs
  let h4 := writeH (writeH h3 b2 "actionError" (.str e)) b2 "error" (.str e)
  if !s.actionErrorBranches then
    if s.actionErrorNode == "" then (h4, .inl { stride := none, err := some (.action e) })
    else
      let (h5, b3) := copyH h4 (some b2)
      (h5, .inl { stride := some { stride0 with emitted := emitted,
                                                 to := some { node := s.actionErrorNode, bs := some b3 } },
                  err := none })
  else (h4, .inr (some b2, emitted))

/-- the action of a node and what follows from its error, heap level -/
def actionH (s : SpecH) (st : StateH) (stride0 : StrideH) (a : Act) (h0 : Heap) :
    Heap × Sum StepOutH (Option Addr × List V) :=
  let (h1, out) := execWrapH a st.bs h0
  let (h2, ebs, emitted) := ensureH h1 out.exe
  match out.err with
  | none => (h2, .inr (some ebs, emitted))
  | some e => actionErrH s st stride0 e emitted h2

/-- branches, `To`, and the "no branch followed" error state, heap level -/
def finishH (st : StateH) (n : NodeH) (stride0 : StrideH) (bs : Option Addr) (emitted : List V)
    (pending : Option V) (h5 : Heap) : Heap × StepOutH :=
  match considerH n.branches bs pending h5 with
  | (h6, (to, consumed, err)) =>
    let (h7, to') : Heap × Option StateH :=
      match to with
      | none => (h6, none)
      | some t => let (hh, x) := copyH h6 t.bs; (hh, some { node := t.node, bs := some x })
    let stride1 : StrideH := { stride0 with emitted := emitted,
                                             consumed := if consumed then pending else none,
                                             to := to' }
    if to.isNone && n.action.isSome then
      let (h8, b) := copyH h7 bs
      let h9 := writeH (writeH (writeH h8 b "error" (.str "Action node followed no branch"))
                            b "lastNode" (.str st.node))
                      b "lastBindings" (.obj (copyB (content h8 st.bs)))
      (h9, { stride := some { stride1 with to := some { node := "error", bs := some b } }, err := err })
    else (h7, { stride := some stride1, err := err })

/-- the stride a step starts from: `From` is the copy at `fa` -/
def stride0H (st : StateH) (fa : Addr) : StrideH :=
  { frm := { node := st.node, bs := some fa }, to := none, consumed := none, emitted := [] }

theorem stepH_eq (s : SpecH) (st : StateH) (pending : Option V) (h : Heap) :
    stepH s st pending h =
      if !s.compiled then (h, { stride := none, err := some .notCompiled }) else
      match findNodeH st.node s.nodes with
      | none => (h, { stride := none, err := some (.unknownNode st.node) })
      | some n =>
        if n.action.isNone && n.hasSource then (h, { stride := none, err := some (.uncompiledAction st.node) }) else
        if n.action.isSome && (match n.branches with | some b => b.type == "message" | none => false) then
          (h, { stride := none, err := some (.badBranching st.node) }) else
        let (h0, fa) := copyH h st.bs
        match (match n.action with
               | none => (h0, .inr (st.bs, []))
               | some a => actionH s st (stride0H st fa) a h0 : Heap × Sum StepOutH (Option Addr × List V)) with
        | (h5, .inl r) => (h5, r)
        | (h5, .inr (bs, emitted)) => finishH st n (stride0H st fa) bs emitted pending h5 := rfl

/-! ## after `stride.From = st.Copy()` -/

/-- what the parts of a step after `stride.From = st.Copy()` know: `fa` is that copy -/
structure Started (h h5 : Heap) (st : StateH) (fa : Addr) : Prop where
  given : OptAlloc h st.bs
  made  : Made h h5 fa (copyB (content h st.bs))

variable {h : Heap} {st : StateH} {fa : Addr}

theorem Started.grow {h5 hx : Heap} (k : Started h h5 st fa) (g : Grows h5 hx) : Started h hx st fa :=
  ⟨k.given, k.made.grow g⟩

theorem Started.content {h5 : Heap} (k : Started h h5 st fa) : content h5 st.bs = content h st.bs :=
  k.made.grows.content k.given

theorem Started.strideOk {h5 h6 h' : Heap} {b : Addr} {c : Bs} (k : Started h h5 st fa)
    (g : Grows h5 h6) (m : Made h6 h' b c) {sd : StrideH} (hf : sd.frm.bs = some fa)
    (hto : ∀ t, sd.to = some t → t.bs = some b) : StrideOk h.next h' sd :=
  ⟨fa, hf, k.made.fresh, (k.made.grow (g.trans m.grows)).exists, fun t ht =>
    ⟨b, hto t ht, Nat.lt_of_lt_of_le k.made.lt (Nat.le_trans g.mono m.fresh), m.exists⟩⟩

theorem Started.stride_abs {h5 hx : Heap} (k : Started h h5 st fa)
    (g : Grows h5 hx) (to : Option StateH) (c : Option V) (em : List V) :
    StrideH.abs hx { stride0H st fa with to := to, consumed := c, emitted := em } =
      { frm := stateCopy (st.abs h), to := to.map (StateH.abs hx), consumed := c, emitted := em } := by
  simp only [StrideH.abs, stride0H, StateH.abs, stateCopy, content_some, (k.made.grow g).get]

/-- the outcome of a step reads as `p`, and its stride is fresh -/
def StepIs (n0 : Nat) (p : StepOut) (h : Heap) (o : StepOutH) : Prop :=
  o.abs h = p ∧ ∀ sd, o.stride = some sd → StrideOk n0 h sd

theorem finishH_spec {h5 : Heap} (k : Started h h5 st fa) (n : NodeH)
    (hn : ∀ br, n.branches = some br → ∀ x ∈ br.branches, ∀ g, x.guard = some g → ActOk g)
    {bs : Option Addr} (hbs : OptAlloc h5 bs) (emitted : List V) (pending : Option V) :
    Ran h5 (finishH st n (stride0H st fa) bs emitted pending h5)
      (StepIs h.next (stepRest (st.abs h) n.abs (content h5 bs) emitted pending)) := by
  obtain ⟨g1, hab⟩ := considerH_spec n.branches hn k.made.grows.inv hbs pending
  unfold finishH stepRest
  generalize considerH n.branches bs pending h5 = x at g1 hab
  obtain ⟨h6, to, consumed, err⟩ := x
  simp only [← hab, NodeH.abs, Option.isSome_map, Option.isNone_map] at g1 ⊢
  cases to with
  | some t =>
    have m := Made.copy g1.inv t.bs
    simp only [Option.isNone_some, Bool.false_and, Bool.false_eq_true, if_false, Option.map_some]
    rw [copyH_eta]
    refine ⟨g1.trans m.grows, ?_, ?_⟩
    · simp only [StepOutH.abs, Option.map_some, k.stride_abs (g1.trans m.grows), StateH.abs, stateCopy,
        content_some, m.get]
    · rintro sd ⟨⟩
      exact k.strideOk g1 m rfl (by rintro _ ⟨⟩; rfl)
  | none =>
    simp only [Option.isNone_none, Bool.true_and, Option.map_none]
    cases hact : n.action.isSome with
    | false =>
      simp only [Bool.false_eq_true, if_false]
      refine ⟨g1, ?_, ?_⟩
      · simp only [StepOutH.abs, Option.map_some, k.stride_abs g1]
        rfl
      · rintro sd ⟨⟩
        exact ⟨_, rfl, k.made.fresh, (k.made.grow g1).exists, fun _ => nofun⟩
    | true =>
      have m0 := Made.copy g1.inv bs
      have m := ((m0.write "error" (.str "Action node followed no branch")).write
        "lastNode" (.str st.node)).write "lastBindings" (.obj (copyB (content (copyH h6 bs).1 st.bs)))
      rw [((k.grow g1).grow m0.grows).content, g1.content hbs] at m
      simp only [if_true]
      rw [copyH_eta, ((k.grow g1).grow m0.grows).content]
      refine ⟨g1.trans m.grows, ?_, ?_⟩
      · simp only [StepOutH.abs, Option.map_some, k.stride_abs (g1.trans m.grows), StateH.abs,
          content_some, m.get]
        rfl
      · rintro sd ⟨⟩
        exact k.strideOk g1 m rfl (by rintro _ ⟨⟩; rfl)

theorem ensureH_spec {h1 : Heap} (hi : Inv h1) {out : ExecOutH}
    (hal : ∀ x em, out.exe = some (some x, em) → Alloc h1 x) :
    Ran h1 (ensureH h1 out.exe) fun h2 r =>
      h2.get r.1 = some (exeOut (absOut h1 out).exe).1 ∧ r.2 = (exeOut (absOut h1 out).exe).2 := by
  obtain ⟨_ | ⟨_ | b, em⟩, err⟩ := out
  · exact ⟨Grows.alloc hi .nil, get_alloc_self _ _, rfl⟩
  · exact ⟨Grows.alloc hi .nil, get_alloc_self _ _, rfl⟩
  · have hb := content_alloc (hal b em rfl)
    simp only [ensureH, absOut, Option.map_some, hb]
    exact .ret hi ⟨hb, rfl⟩

/-- what the action part hands on: the step's outcome, `p` being that (`inl`), or bindings that
    exist, `p` being their content (`inr`) -/
def AfterIs (n0 : Nat) (p : Sum StepOut (Option Bs × List V)) (h : Heap) :
    Sum StepOutH (Option Addr × List V) → Prop
  | .inl o => ∃ q, p = .inl q ∧ StepIs n0 q h o
  | .inr (bs, em) => p = .inr (content h bs, em) ∧ OptAlloc h bs

theorem actionErrH_spec (s : SpecH) {h2 : Heap} (k : Started h h2 st fa)
    (e : String) (emitted : List V) :
    Ran h2 (actionErrH s st (stride0H st fa) e emitted h2)
      (AfterIs h.next (actionErrP s.abs (st.abs h) e emitted)) := by
  have m4 := ((Made.copy k.made.grows.inv st.bs).write "actionError" (.str e)).write "error" (.str e)
  rw [k.content] at m4
  unfold actionErrH actionErrP
  rw [copyH_eta]
  simp only [SpecH.abs, StateH.abs]
  rcases Bool.eq_false_or_eq_true s.actionErrorBranches with hb | hb <;>
    simp only [hb, Bool.not_false, Bool.not_true, if_true, Bool.false_eq_true, if_false]
  -- the impossible cases by `rintro … ⟨⟩`: `nofun` works too, but takes seconds with heaps this size in the goal
  · exact ⟨m4.grows, by rw [content_some, m4.get], optAlloc_some m4.exists⟩
  · rcases Bool.eq_false_or_eq_true (s.actionErrorNode == "") with hn | hn <;>
      simp only [hn, if_true, Bool.false_eq_true, if_false]
    · exact ⟨m4.grows, _, rfl, rfl, by rintro _ ⟨⟩⟩
    · have m5 := Made.copy m4.grows.inv (some h2.next)
      rw [copyH_eta]
      refine ⟨m4.grows.trans m5.grows, _, rfl, ?_, ?_⟩
      · simp only [StepOutH.abs, Option.map_some, k.stride_abs (m4.grows.trans m5.grows),
          StateH.abs, m5.get, content_some, m4.get, copyB]
        rfl
      · rintro sd ⟨⟩
        exact k.strideOk m4.grows m5 rfl (by rintro _ ⟨⟩; rfl)

theorem actionH_spec (s : SpecH) {h0 : Heap} (k : Started h h0 st fa) {a : Act} (ha : ActOk a) :
    Ran h0 (actionH s st (stride0H st fa) a h0) (AfterIs h.next (actionP s.abs (st.abs h) a.pure)) := by
  obtain ⟨g1, hal, hab⟩ := execWrapH_spec ha k.made.grows.inv (k.made.grows.optAlloc k.given)
  rw [k.content] at hab
  unfold actionH actionP
  generalize execWrapH a st.bs h0 = x at g1 hal hab
  obtain ⟨h1, out⟩ := x
  obtain ⟨g2, hge, hem⟩ := ensureH_spec g1.inv hal
  have herr : out.err = (execWrap a.pure (content h st.bs)).err := congrArg ExecOut.err hab
  rw [hab] at hge hem
  simp only [StateH.abs, ← herr]
  generalize ensureH h1 out.exe = y at g2 hge hem
  obtain ⟨h2, ebs, emitted⟩ := y
  simp only at g1 g2 hge hem ⊢
  subst hem
  rcases out.err with _ | e
  · exact ⟨g1.trans g2, by rw [content_some, hge], optAlloc_some (alloc_of_get g2.inv hge)⟩
  · exact (actionErrH_spec s (k.grow (g1.trans g2)) e _).after (g1.trans g2)

theorem findNodeH_mem {k : String} {l : List (String × NodeH)} {n : NodeH}
    (h : findNodeH k l = some n) : ∃ k', (k', n) ∈ l := by
  induction l with
  | nil => cases h
  | cons kn rest ih =>
    obtain ⟨k', n'⟩ := kn
    simp only [findNodeH] at h
    split at h
    · cases h; exact ⟨k', List.mem_cons_self⟩
    · obtain ⟨k'', hk⟩ := ih h
      exact ⟨k'', List.mem_cons_of_mem _ hk⟩

theorem findNode_abs (k : String) (l : List (String × NodeH)) :
    findNode k (l.map (fun kn => (kn.1, kn.2.abs))) = (findNodeH k l).map NodeH.abs := by
  induction l with
  | nil => rfl
  | cons kn rest ih =>
    obtain ⟨k', n'⟩ := kn
    simp only [List.map_cons, findNode, findNodeH]
    split
    · rfl
    · exact ih

theorem node_ok {s : SpecH} (hs : s.Good) (hk : KeepsClean s) {k : String} {n : NodeH}
    (hn : findNodeH k s.nodes = some n) :
    (∀ a, n.action = some a → ActOk a) ∧
    (∀ br, n.branches = some br → ∀ x ∈ br.branches, ∀ g, x.guard = some g → ActOk g) := by
  obtain ⟨k', hmem⟩ := findNodeH_mem hn
  obtain ⟨hs1, hs2⟩ := hs (k', n) hmem
  obtain ⟨hk1, hk2⟩ := hk (k', n) hmem
  exact ⟨fun a ha => ⟨hs1 a ha, hk1 a ha⟩,
    fun br hbr x hx g hg => ⟨hs2 br hbr x hx g hg, hk2 br hbr x hx g hg⟩⟩

/-- everything about one `Spec.Step` at heap level -/
theorem stepH_spec (s : SpecH) (hs : s.Good) (hk : KeepsClean s) (st : StateH) (pending : Option V)
    {h : Heap} (hi : Inv h) (hst : OptAlloc h st.bs) :
    Ran h (stepH s st pending h) (StepIs h.next (step s.abs (st.abs h) pending)) := by
  have stop : ∀ e, Ran h (h, ({ stride := none, err := some e } : StepOutH))
      (StepIs h.next { stride := none, err := some e }) := fun e => .ret hi ⟨rfl, fun _ => nofun⟩
  rw [stepH_eq]
  -- the checks: the heap side by cases, the pure side by the case lemmas of `step`
  cases hc : s.compiled with
  | false => rw [step_not_compiled s.abs _ _ hc]; exact stop _
  | true =>
  have hfn : findNode (st.abs h).node s.abs.nodes = _ := findNode_abs st.node s.nodes
  cases hnode : findNodeH st.node s.nodes with
  | none => rw [hnode] at hfn; rw [step_unknown s.abs _ _ hc hfn]; exact stop _
  | some n =>
  rw [hnode] at hfn
  simp only [Bool.not_true, Bool.false_eq_true, if_false]
  obtain ⟨hact, hgd⟩ := node_ok hs hk hnode
  have k : Started h (copyH h st.bs).1 st h.next := ⟨hst, Made.copy hi st.bs⟩
  have g0 := k.made.grows
  cases hna : n.action with
  | none =>
    have ha : n.abs.action = none := congrArg (Option.map _) hna
    cases hsrc : n.hasSource with
    | true => rw [step_uncompiled_action s.abs _ _ n.abs hc hfn ha hsrc]; exact stop _
    | false =>
      rw [step_noaction s.abs _ _ n.abs hc hfn ha hsrc, copyH_eta]
      simp only [Option.isNone_none, Option.isSome_none, Bool.and_false, Bool.false_and, Bool.false_eq_true,
        if_false]
      have := (finishH_spec k n hgd (g0.optAlloc hst) [] pending).after g0
      rw [k.content] at this
      exact this
  | some a =>
    have ha : n.abs.action = some a.pure := congrArg (Option.map _) hna
    by_cases hm : ∀ br, n.branches = some br → br.type ≠ "message"
    · have hm' : ∀ br, n.abs.branches = some br → br.type ≠ "message" := by
        intro br hbr
        obtain ⟨b, hb, rfl⟩ := Option.map_eq_some_iff.mp hbr
        exact hm b hb
      have hmH : (match n.branches with | some b => b.type == "message" | none => false) = false := by
        split
        · next b hb => simpa using hm b hb
        · rfl
      obtain ⟨g1, hpost⟩ := actionH_spec s k (hact a hna)
      rw [step_action s.abs _ _ n.abs a.pure hc hfn ha hm', copyH_eta]
      simp only [hmH, Option.isNone_some, Option.isSome_some, Bool.false_and, Bool.and_false, Bool.false_eq_true,
        if_false]
      generalize actionH s st (stride0H st h.next) a (copyH h st.bs).1 = x at g1 hpost
      obtain ⟨h5, r | ⟨bs, em⟩⟩ := x
      · obtain ⟨q, hq, hs⟩ := hpost
        rw [hq]
        exact ⟨g0.trans g1, hs⟩
      · rw [hpost.1]
        exact (finishH_spec (k.grow g1) n hgd hpost.2 em pending).after (g0.trans g1)
    · obtain ⟨br, hbr, hty⟩ : ∃ br, n.branches = some br ∧ br.type = "message" :=
        Classical.byContradiction fun hne => hm fun br hbr hty => hne ⟨br, hbr, hty⟩
      rw [step_bad_branching s.abs _ _ n.abs a.pure br.abs hc hfn ha (congrArg (Option.map _) hbr) hty]
      simp only [hbr, hty, Option.isNone_some, Option.isSome_some, Bool.false_and, Bool.true_and,
        beq_self_eq_true, Bool.false_eq_true, if_false, if_true]
      exact stop _

end Sheens.C06
