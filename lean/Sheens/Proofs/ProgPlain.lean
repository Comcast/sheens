import Sheens.Proofs.EnginePlain

/-!
# The DSL's programs are `PredAction`s when their literals satisfy the predicate
-/

namespace Plain

/-- the literals an operation writes into the bindings or emits satisfy `P` -/
def PredOp (P : V → Prop) : Op → Prop
  | .set _ v => P v
  | .emit v => P v
  | .setnested _ _ v => P v
  | .markdeep _ _ v => P v
  | _ => True

section
variable {P : V → Prop}

mutual
theorem markV_pred (hP : ValPred P) {k2 : String} {v : V} (hv : P v) (x : V) (h : P x) :
    P (markV k2 v x) := by
  cases x with
  | arr xs =>
    simp only [markV]
    exact (hP.arr _).mpr (markVs_pred hP hv xs ((hP.arr _).mp h))
  | obj kvs =>
    simp only [markV]
    exact (hP.obj _).mpr (allBs_insertB hv (markKvs_pred hP hv kvs ((hP.obj _).mp h)))
  | _ => simpa only [markV] using h
theorem markVs_pred (hP : ValPred P) {k2 : String} {v : V} (hv : P v) :
    ∀ xs : List V, (∀ x ∈ xs, P x) → ∀ y ∈ markVs k2 v xs, P y
  | [], _ => by simp [markVs]
  | x :: xs, h => by
    obtain ⟨hx, hxs⟩ := List.forall_mem_cons.mp h
    exact List.forall_mem_cons.mpr ⟨markV_pred hP hv x hx, markVs_pred hP hv xs hxs⟩
theorem markKvs_pred (hP : ValPred P) {k2 : String} {v : V} (hv : P v) :
    ∀ kvs : List (String × V), AllBs P kvs → AllBs P (markKvs k2 v kvs)
  | [], _ => by simp [markKvs, AllBs]
  | (k, x) :: rest, h => by
    obtain ⟨hx, hrest⟩ := List.forall_mem_cons.mp h
    exact allBs_cons (markV_pred hP hv x hx) (markKvs_pred hP hv rest hrest)
end

theorem apply_pred (hP : ValPred P) {o : Op} (ho : PredOp P o) {bs : Bs} {em : List V}
    (hb : AllBs P bs) (he : AllMsgs P em) {bs' : Bs} {em' : List V}
    (h : o.apply bs em = .ok (bs', em')) : AllBs P bs' ∧ AllMsgs P em' := by
  cases o <;> simp only [Op.apply, reduceCtorEq] at h
  -- `fail`, `loop` and `emitBad` do not complete
  case set k v => cases h; exact ⟨allBs_insertB ho hb, he⟩
  case del k => cases h; exact ⟨allBs_eraseB hb, he⟩
  case emit v => cases h; exact ⟨hb, allMsgs_snoc he ho⟩
  case emitb k =>
    cases h
    have hv : P ((lookup k bs).getD .null) := by
      cases hl : lookup k bs with
      | none => exact hP.null
      | some v => exact all_lookup hb hl
    exact ⟨hb, allMsgs_snoc he ((hP.obj _).mpr (allBs_cons (hP.str _) (allBs_cons hv allBs_nil)))⟩
  case inc k => cases h; exact ⟨allBs_insertB (hP.num _) hb, he⟩
  case iffail k m =>
    split at h
    · cases h
    · cases h; exact ⟨hb, he⟩
  case clear => cases h; exact ⟨allBs_nil, he⟩
  case setnested k k2 v =>
    split at h
    · next m hl =>
      cases h
      have hm : AllBs P m := (hP.obj m).mp (all_lookup hb hl)
      exact ⟨allBs_insertB ((hP.obj _).mpr (allBs_insertB ho hm)) hb, he⟩
    · cases h
      exact ⟨allBs_insertB ((hP.obj _).mpr (allBs_cons ho allBs_nil)) hb, he⟩
  case markdeep k k2 v =>
    split at h
    · next x hl =>
      cases h
      exact ⟨allBs_insertB (markV_pred hP ho x (all_lookup hb hl)) hb, he⟩
    · cases h; exact ⟨hb, he⟩
  case rejectUnless k =>
    split at h
    · cases h; exact ⟨hb, he⟩
    · cases h
  case rejectIf k v =>
    split at h
    · split at h
      · cases h
      · cases h; exact ⟨hb, he⟩
    · cases h; exact ⟨hb, he⟩
  case pollute => cases h; exact ⟨hb, he⟩
  case forin k => cases h; exact ⟨allBs_insertB (hP.num _) hb, he⟩

theorem runOps_pred (hP : ValPred P) {ops : List Op} (ho : ∀ o ∈ ops, PredOp P o) {bs : Bs}
    {em : List V} (hb : AllBs P bs) (he : AllMsgs P em) :
    (∀ b' em', runOps ops bs em = .ok (b', em') → AllBs P b' ∧ AllMsgs P em') ∧
    (∀ x b' em', runOps ops bs em = .error (x, b', em') → AllBs P b' ∧ AllMsgs P em') := by
  induction ops generalizing bs em with
  | nil =>
    refine ⟨fun b' em' h => ?_, fun x b' em' h => ?_⟩
    · cases h; exact ⟨hb, he⟩
    · cases h
  | cons o rest ih =>
    obtain ⟨ho', hrest⟩ := List.forall_mem_cons.mp ho
    simp only [runOps]
    cases hap : o.apply bs em with
    | ok r =>
      obtain ⟨bs1, em1⟩ := r
      obtain ⟨h1, h2⟩ := apply_pred hP ho' hb he hap
      exact ih hrest h1 h2
    | error x =>
      refine ⟨fun b' em' h => ?_, fun y b' em' h => ?_⟩
      · cases h
      · cases h; exact ⟨hb, he⟩

theorem prog_pred (hP : ValPred P) (p : Prog) (ho : ∀ o ∈ p.ops, PredOp P o) :
    PredAction P p.run := by
  intro bs hbs bo em hx
  obtain ⟨hok, herr⟩ := runOps_pred hP ho hbs (allMsgs_nil (P := P))
  unfold Prog.run at hx
  split at hx
  · next b0 em0 hr =>
    cases hx
    exact ⟨(herr _ _ _ hr).2, allBs_nil⟩
  · next x b0 em0 hne hr =>
    obtain ⟨h1, h2⟩ := herr _ _ _ hr
    simp only at hx
    split at hx
    · cases hx
      exact ⟨h2, h1⟩
    · cases hx
  · next b0 em0 hr =>
    obtain ⟨h1, h2⟩ := hok _ _ hr
    split at hx
    · cases hx; exact ⟨h2, h1⟩
    · cases hx
      exact ⟨h2, allBs_cons (hP.bool _) allBs_nil⟩
    · cases hx; exact ⟨h2, allBs_nil⟩
    · split at hx
      · cases hx; exact ⟨h2, h1⟩
      · cases hx
    · split at hx
      · cases hx; exact ⟨h2, h1⟩
      · cases hx
    · split at hx
      · cases hx; exact ⟨h2, h1⟩
      · cases hx

end

end Plain
