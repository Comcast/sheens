import Sheens.Proofs.CompleteNoErr

/-!
# Lemmas for C03 on linear patterns: re-ordering the keys of a pattern's maps

`Sheens.C03.KeyPerm` (defined in `Sheens/Props/C03Linear.lean`, which imports this file) relates a
pattern to its hereditary re-orderings.  This file proves, for an abstract relation built the same
way (`RelL` / `RelK` pointwise, then `List.Perm` on the entries of a map), that the things
`C02.match_exact` and `Complete.matchF_noerr` depend on are invariant:

* `EmbEq`  : the embeddings `Emb bs₀ σ · f` are the same (and string leaves are the same strings),
* `plainPat` is preserved,
* `varsOf` is the same up to `List.Perm` (hence `Linear`, `PlainVars` and the domain condition),
* `patOK` is preserved.

`Inv` packages the four; `Inv.refl`, `Inv.arr`, `Inv.obj` are the three constructors of `KeyPerm`.
-/

namespace Sheens.KeyPermLemmas

open Sheens.Complete

inductive RelL (R : V → V → Prop) : List V → List V → Prop
  | nil : RelL R [] []
  | cons {x y : V} {xs ys : List V} : R x y → RelL R xs ys → RelL R (x :: xs) (y :: ys)

inductive RelK (R : V → V → Prop) : List (String × V) → List (String × V) → Prop
  | nil : RelK R [] []
  | cons {k : String} {x y : V} {xs ys : List (String × V)} :
      R x y → RelK R xs ys → RelK R ((k, x) :: xs) ((k, y) :: ys)

variable {R : V → V → Prop} {bs₀ σ : Bs}

theorem RelL.flip {xs ys : List V} (hr : RelL R xs ys) :
    RelL (fun x y => R y x) ys xs := by
  induction hr with
  | nil => exact RelL.nil
  | cons hxy _ ih => exact RelL.cons hxy ih

theorem RelK.flip {xs ys : List (String × V)} (hr : RelK R xs ys) :
    RelK (fun x y => R y x) ys xs := by
  induction hr with
  | nil => exact RelK.nil
  | cons hxy _ ih => exact RelK.cons hxy ih

theorem RelL.mem {xs ys : List V} (hr : RelL R xs ys) :
    ∀ y ∈ ys, ∃ x ∈ xs, R x y := by
  induction hr with
  | nil => exact fun _ h => nomatch h
  | cons hxy _ ih =>
    refine List.forall_mem_cons.mpr ⟨⟨_, List.mem_cons_self, hxy⟩, fun y hy => ?_⟩
    obtain ⟨x, hx, h⟩ := ih y hy
    exact ⟨x, List.mem_cons_of_mem _ hx, h⟩

theorem RelK.mem {xs ys : List (String × V)} (hr : RelK R xs ys) :
    ∀ kv ∈ ys, ∃ x, (kv.1, x) ∈ xs ∧ R x kv.2 := by
  induction hr with
  | nil => exact fun _ h => nomatch h
  | cons hxy _ ih =>
    refine List.forall_mem_cons.mpr ⟨⟨_, List.mem_cons_self, hxy⟩, fun kv hkv => ?_⟩
    obtain ⟨x, hx, h⟩ := ih kv hkv
    exact ⟨x, List.mem_cons_of_mem _ hx, h⟩

theorem RelK.keys {xs ys : List (String × V)} (hr : RelK R xs ys) :
    xs.map Prod.fst = ys.map Prod.fst := by
  induction hr with
  | nil => rfl
  | cons _ _ ih => simp only [List.map_cons, ih]

theorem RelL.append {a a' b b' : List V} (h1 : RelL R a a')
    (h2 : RelL R b b') : RelL R (a ++ b) (a' ++ b') := by
  induction h1 with
  | nil => exact h2
  | cons hxy _ ih => exact RelL.cons hxy ih

theorem RelL.reverse {a a' : List V} (h : RelL R a a') :
    RelL R a.reverse a'.reverse := by
  induction h with
  | nil => exact RelL.nil
  | cons hxy _ ih =>
    rw [List.reverse_cons, List.reverse_cons]
    exact ih.append (RelL.cons hxy RelL.nil)

def StrSame (x y : V) : Prop := ∀ s, x = .str s ↔ y = .str s

/-- `x` and `y` are the same string if either is one, and have the same embeddings -/
def EmbEq (bs₀ σ : Bs) (x y : V) : Prop :=
  StrSame x y ∧ ∀ f, Emb bs₀ σ x f ↔ Emb bs₀ σ y f

theorem EmbEq.refl {x : V} : EmbEq bs₀ σ x x :=
  ⟨fun _ => Iff.rfl, fun _ => Iff.rfl⟩

theorem EmbEq.symm {x y : V} (h : EmbEq bs₀ σ x y) : EmbEq bs₀ σ y x :=
  ⟨fun s => (h.1 s).symm, fun f => (h.2 f).symm⟩

theorem getVariable_rel (hstr : ∀ {x y}, R x y → StrSame x y)
    {ps ps' : List V} (hps : RelL R ps ps') :
    ∀ {acc acc' : List V} {v vo : Option String} {xs : List V}, RelL R acc acc' →
      getVariable ps v acc = .ok (vo, xs) →
      ∃ xs', getVariable ps' v acc' = .ok (vo, xs') ∧ RelL R xs xs' := by
  induction hps with
  | nil =>
    intro acc acc' v vo xs hacc h
    simp only [getVariable, Except.ok.injEq, Prod.mk.injEq] at h
    obtain ⟨rfl, rfl⟩ := h
    exact ⟨acc'.reverse, by simp [getVariable], hacc.reverse⟩
  | @cons x y xs0 ys0 hxy _ ih =>
    intro acc acc' v vo xs hacc h
    by_cases hx : ∃ s, x = .str s ∧ isVar s = true
    · obtain ⟨s, rfl, hvs⟩ := hx
      obtain rfl : y = .str s := ((hstr hxy) s).mp rfl
      cases v with
      | none =>
        simp only [getVariable, hvs, if_true] at h ⊢
        exact ih hacc h
      | some v' =>
        simp only [getVariable, hvs, if_true] at h
        split at h <;> cases h
    · have hnv : ∀ z, StrSame x z → isVarV z = false := by
        intro z hz
        cases z with
        | str t => exact Bool.eq_false_iff.mpr fun ht => hx ⟨t, (hz t).mpr rfl, ht⟩
        | _ => rfl
      rw [getVariable_cons_other (hnv x fun _ => Iff.rfl)] at h
      rw [getVariable_cons_other (hnv y (hstr hxy))]
      exact ih (RelL.cons hxy hacc) h

theorem ArrEmbX_rel (hemb : ∀ {x y}, R x y → ∀ f, Emb bs₀ σ x f → Emb bs₀ σ y f)
    {xs xs' : List V} (hr : RelL R xs xs') :
    ∀ {fs L : List V}, ArrEmbX bs₀ σ xs fs L → ArrEmbX bs₀ σ xs' fs L := by
  induction hr with
  | nil => intro fs L h; exact h
  | cons hxy _ ih =>
    intro fs L h
    cases h with
    | cons hp he hrest => exact ArrEmbX.cons hp (hemb hxy _ he) (ih hrest)

theorem Emb_arr_rel (hR : ∀ {x y}, R x y → EmbEq bs₀ σ x y)
    {ps ps' : List V} (hr : RelL R ps ps') {f : V} (h : Emb bs₀ σ (.arr ps) f) :
    Emb bs₀ σ (.arr ps') f := by
  cases h with
  | scalar hc _ => simp [isScalarConst] at hc
  | arr hg ha hvo =>
    obtain ⟨xs', hg', hxs⟩ := getVariable_rel (fun h => (hR h).1) hr RelL.nil hg
    exact Emb.arr hg' (ArrEmbX_rel (fun h f => ((hR h).2 f).mp) hxs ha) hvo

theorem EmbEq.arr (hR : ∀ {x y}, R x y → EmbEq bs₀ σ x y)
    {ps ps' : List V} (hr : RelL R ps ps') : EmbEq bs₀ σ (.arr ps) (.arr ps') :=
  ⟨fun _ => ⟨(fun h => nomatch h), (fun h => nomatch h)⟩,
   fun _ => ⟨Emb_arr_rel hR hr, Emb_arr_rel (fun h => (hR h).symm) hr.flip⟩⟩

theorem ObjEmb_rel (hR : ∀ {x y}, R x y → EmbEq bs₀ σ x y)
    {kvs mid : List (String × V)} (hr : RelK R kvs mid) {fm : List (String × V)}
    (h : ObjEmb bs₀ σ kvs fm) : ObjEmb bs₀ σ mid fm := by
  induction hr with
  | nil => exact ObjEmb.nil
  | @cons k x y xs ys hxy _ ih =>
    cases h with
    | present hk hl he hrest => exact ObjEmb.present hk hl (((hR hxy).2 _).mp he) (ih hrest)
    | absent hk hl ho hrest =>
      obtain ⟨s, rfl, _⟩ := optVar_str ho
      have hy : y = .str s := ((hR hxy).1 s).mp rfl
      subst hy
      exact ObjEmb.absent hk hl ho (ih hrest)

theorem Emb_obj_rel (hR : ∀ {x y}, R x y → EmbEq bs₀ σ x y)
    {kvs mid : List (String × V)} (hr : RelK R kvs mid) {f : V} (h : Emb bs₀ σ (.obj kvs) f) :
    Emb bs₀ σ (.obj mid) f := by
  cases h with
  | scalar hc _ => simp [isScalarConst] at hc
  | objEmpty => cases hr; exact Emb.objEmpty
  | objProp hk hm hva he =>
    cases hr with
    | cons hxy hrest =>
      cases hrest
      exact Emb.objProp hk hm hva (((hR hxy).2 _).mp he)
  | obj hne ho =>
    refine Emb.obj ?_ (ObjEmb_rel hR hr ho)
    cases hr with
    | nil => exact absurd rfl hne
    | cons _ _ => exact List.cons_ne_nil _ _

/-- what `ObjEmb` asks of one entry of the pattern's map -/
def EntryOK (bs₀ σ : Bs) (fm : List (String × V)) (kv : String × V) : Prop :=
  isVar kv.1 = false ∧
    ((∃ fv, lookup kv.1 fm = some fv ∧ Emb bs₀ σ kv.2 fv) ∨
     (lookup kv.1 fm = none ∧ isOptVar kv.2 = true))

theorem ObjEmb_iff_forall {pm fm : List (String × V)} :
    ObjEmb bs₀ σ pm fm ↔ ∀ kv ∈ pm, EntryOK bs₀ σ fm kv := by
  induction pm with
  | nil => exact ⟨fun _ _ h => (nomatch h), fun _ => ObjEmb.nil⟩
  | cons kv rest ih =>
    rw [List.forall_mem_cons, ← ih]
    constructor
    · intro h
      cases h with
      | present hk hl he hrest => exact ⟨⟨hk, Or.inl ⟨_, hl, he⟩⟩, hrest⟩
      | absent hk hl ho hrest => exact ⟨⟨hk, Or.inr ⟨hl, ho⟩⟩, hrest⟩
    · obtain ⟨k, pv⟩ := kv
      rintro ⟨⟨hk, ⟨fv, hl, he⟩ | ⟨hl, ho⟩⟩, hrest⟩
      · exact ObjEmb.present hk hl he hrest
      · exact ObjEmb.absent hk hl ho hrest

theorem ObjEmb_perm {pm pm' fm : List (String × V)} (hp : pm.Perm pm')
    (h : ObjEmb bs₀ σ pm fm) : ObjEmb bs₀ σ pm' fm :=
  ObjEmb_iff_forall.mpr (fun kv hm => ObjEmb_iff_forall.mp h kv (hp.mem_iff.mpr hm))

theorem Emb_obj_perm {mid kvs' : List (String × V)} (hp : mid.Perm kvs') {f : V}
    (h : Emb bs₀ σ (.obj mid) f) : Emb bs₀ σ (.obj kvs') f := by
  cases h with
  | scalar hc _ => simp [isScalarConst] at hc
  | objEmpty => rw [← hp.nil_eq]; exact Emb.objEmpty
  | objProp hk hm hva he =>
    rw [← List.singleton_perm.mp hp]
    exact Emb.objProp hk hm hva he
  | obj hne ho =>
    refine Emb.obj ?_ (ObjEmb_perm hp ho)
    intro e
    subst e
    exact hne hp.eq_nil

theorem EmbEq.obj (hR : ∀ {x y}, R x y → EmbEq bs₀ σ x y)
    {kvs mid kvs' : List (String × V)} (hr : RelK R kvs mid) (hp : mid.Perm kvs') :
    EmbEq bs₀ σ (.obj kvs) (.obj kvs') :=
  ⟨fun _ => ⟨(fun h => nomatch h), (fun h => nomatch h)⟩,
   fun _ => ⟨fun h => Emb_obj_perm hp (Emb_obj_rel hR hr h),
     fun h => Emb_obj_rel (fun h => (hR h).symm) hr.flip (Emb_obj_perm hp.symm h)⟩⟩

/-! ## `plainPat`: a statement about the members and the keys -/

theorem plainPatKvs_iff {kvs : List (String × V)} :
    plainPatKvs kvs = true ↔
      (∀ kv ∈ kvs, kv.2.plainPat = true) ∧ (kvs.map Prod.fst).Nodup := by
  induction kvs with
  | nil => simp [plainPatKvs]
  | cons kv rest ih =>
    obtain ⟨k, v⟩ := kv
    simp only [plainPatKvs, Bool.and_eq_true, ih, keyFresh_iff, List.map_cons, List.nodup_cons,
      List.mem_cons, forall_eq_or_imp]
    constructor
    · rintro ⟨⟨h1, h2⟩, h3, h4⟩; exact ⟨⟨h1, h3⟩, h2, h4⟩
    · rintro ⟨⟨h1, h3⟩, h2, h4⟩; exact ⟨⟨h1, h2⟩, h3, h4⟩

theorem varsOfList_rel (hR : ∀ {x y}, R x y → (varsOf x).Perm (varsOf y))
    {xs ys : List V} (hr : RelL R xs ys) : (varsOfList xs).Perm (varsOfList ys) := by
  induction hr with
  | nil => exact List.Perm.refl _
  | cons hxy _ ih =>
    simp only [varsOfList]
    exact (hR hxy).append ih

theorem varsOfKvs_rel (hR : ∀ {x y}, R x y → (varsOf x).Perm (varsOf y))
    {xs ys : List (String × V)} (hr : RelK R xs ys) : (varsOfKvs xs).Perm (varsOfKvs ys) := by
  induction hr with
  | nil => exact List.Perm.refl _
  | cons hxy _ ih =>
    simp only [varsOfKvs]
    exact ((hR hxy).append_left _).append ih

theorem varsOfKvs_flatMap (kvs : List (String × V)) :
    varsOfKvs kvs =
      kvs.flatMap (fun kv => (if isVar kv.1 then [kv.1] else []) ++ varsOf kv.2) := by
  induction kvs with
  | nil => rfl
  | cons kv rest ih =>
    obtain ⟨k, v⟩ := kv
    simp only [varsOfKvs, List.flatMap_cons, ih]

theorem varsOfKvs_perm {mid kvs' : List (String × V)} (hp : mid.Perm kvs') :
    (varsOfKvs mid).Perm (varsOfKvs kvs') := by
  rw [varsOfKvs_flatMap, varsOfKvs_flatMap]
  exact hp.flatMap_right _

/-! ## the property-variable check is a statement about the keys -/

theorem any_isVar_keys {a b : List (String × V)} (h : (a.map Prod.fst).Perm (b.map Prod.fst))
    (ha : a.any (fun kv => isVar kv.1) = true) : b.any (fun kv => isVar kv.1) = true := by
  obtain ⟨x, hx, hv⟩ := List.any_eq_true.mp ha
  obtain ⟨y, hy, he⟩ := List.mem_map.mp (h.mem_iff.mp (List.mem_map_of_mem (f := Prod.fst) hx))
  exact List.any_eq_true.mpr ⟨y, hy, he ▸ hv⟩

theorem checkBadPropVars_keys {a b : List (String × V)}
    (h : (a.map Prod.fst).Perm (b.map Prod.fst)) : checkBadPropVars a = checkBadPropVars b := by
  have hlen := h.length_eq
  rw [List.length_map, List.length_map] at hlen
  unfold checkBadPropVars
  rw [hlen, Bool.eq_iff_iff.mpr ⟨any_isVar_keys h, any_isVar_keys h.symm⟩]

structure Inv (bs₀ σ : Bs) (p p' : V) : Prop where
  emb   : EmbEq bs₀ σ p p'
  plain : p.plainPat = true → p'.plainPat = true
  vars  : (varsOf p).Perm (varsOf p')
  ok    : patOK p = true → patOK p' = true

theorem Inv.refl {v : V} : Inv bs₀ σ v v :=
  ⟨EmbEq.refl, id, List.Perm.refl _, id⟩

theorem Inv.arr {xs ys : List V} (hr : RelL (Inv bs₀ σ) xs ys) :
    Inv bs₀ σ (.arr xs) (.arr ys) where
  emb := EmbEq.arr Inv.emb hr
  plain := by
    intro h
    simp only [V.plainPat, plainPatList_eq_all, List.all_eq_true] at h ⊢
    intro y hy
    obtain ⟨x, hx, hi⟩ := hr.mem y hy
    exact hi.plain (h x hx)
  vars := by
    simp only [varsOf]
    exact varsOfList_rel Inv.vars hr
  ok := by
    intro h
    obtain ⟨⟨r, hg⟩, hl⟩ := patOK_arr.mp h
    obtain ⟨zs', hg', _⟩ := getVariable_rel (fun h => h.emb.1) hr RelL.nil hg
    refine patOK_arr.mpr ⟨⟨_, hg'⟩, patOKList_iff.mpr fun y hy => ?_⟩
    obtain ⟨x, hx, hi⟩ := hr.mem y hy
    exact hi.ok (patOKList_iff.mp hl x hx)

theorem Inv.obj {kvs mid kvs' : List (String × V)}
    (hr : RelK (Inv bs₀ σ) kvs mid) (hp : mid.Perm kvs') :
    Inv bs₀ σ (.obj kvs) (.obj kvs') where
  emb := EmbEq.obj Inv.emb hr hp
  plain := by
    intro h
    simp only [V.plainPat, plainPatKvs_iff] at h ⊢
    refine ⟨fun kv hm => ?_, (hp.map Prod.fst).nodup_iff.mp (hr.keys ▸ h.2)⟩
    obtain ⟨x, hx, hi⟩ := hr.mem kv (hp.mem_iff.mpr hm)
    exact hi.plain (h.1 _ hx)
  vars := by
    simp only [varsOf]
    exact (varsOfKvs_rel Inv.vars hr).trans (varsOfKvs_perm hp)
  ok := by
    intro h
    obtain ⟨hbad, hl⟩ := patOK_obj.mp h
    refine patOK_obj.mpr ⟨checkBadPropVars_keys (hr.keys ▸ hp.map Prod.fst) ▸ hbad,
      patOKKvs_iff.mpr fun kv hm => ?_⟩
    obtain ⟨x, hx, hi⟩ := hr.mem kv (hp.mem_iff.mpr hm)
    exact hi.ok (patOKKvs_iff.mp hl _ hx)

end Sheens.KeyPermLemmas
