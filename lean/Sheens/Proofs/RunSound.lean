import Sheens.Proofs.RunRel

/-!
# Soundness of the matcher (C01), by induction on `Run`

Each constructor of `Run` is answered by one constructor of `Sat` / `ObjSat` / `ArrEmb`; `Post` is
carried along (`Post.refl`, `Post.trans`, and `Post.bind` for the two places that bind a key).

All statements are relative to the *given* bindings `bs₀` and a fixed list `vs` of variable names
(the variables of the top-level pattern).  `PB vs bs₀` is `IneqPrebound` phrased on `vs`.
-/

/-- where a new key may come from: a variable of the pattern, or the base of an inequality variable -/
def SrcL (vs : List String) (k : String) : Prop :=
  k ∈ vs ∨ k ∈ vs.filterMap (fun v => (ineqOf v).map (·.2))

/-- `IneqPrebound` on a list of variable names: those that carry an inequality operator are pre-bound -/
def PB (vs : List String) (bs₀ : Bs) : Prop :=
  ∀ v ∈ vs, ineqOf v ≠ none → lookup v bs₀ ≠ none

structure Cur (bs₀ bs : Bs) : Prop where
  ext  : Extends bs₀ bs
  good : GoodBs bs

/-- what a single result `r` must satisfy relative to the starting bindings `bs` -/
structure Post (vs : List String) (bs r : Bs) : Prop where
  ext  : Extends bs r
  good : GoodBs r
  keys : ∀ k, lookup k r ≠ none → lookup k bs ≠ none ∨ SrcL vs k

theorem Post.refl {vs : List String} {bs : Bs} (hg : GoodBs bs) : Post vs bs bs :=
  ⟨Extends.refl _, hg, fun _ h => Or.inl h⟩

theorem Post.trans {vs : List String} {a b c : Bs} (h1 : Post vs a b) (h2 : Post vs b c) :
    Post vs a c :=
  ⟨h1.ext.trans h2.ext, h2.good, fun k hk => (h2.keys k hk).elim (h1.keys k) Or.inr⟩

theorem Cur.post {vs : List String} {bs₀ bs r : Bs} (hi : Cur bs₀ bs) (hp : Post vs bs r) :
    Cur bs₀ r := ⟨hi.ext.trans hp.ext, hp.good⟩

theorem varsOf_str_mem {s : String} {vs : List String} (hv : isVar s = true)
    (h : varsOf (.str s) ⊆ vs) : s ∈ vs := by
  apply h
  simp [varsOf, hv]

theorem asNum_good {f : V} {a : Rat} (hg : f.good = true) (h : asNum f = some a) : f = .num a := by
  cases f with
  | num q => cases h; rfl
  | int i => cases hg
  | _ => cases h

/-- `inequal` declines ⇒ the inequality reading is off for every later result -/
theorem inequal_none {bs₀ bs r : Bs} {f : V} {s : String} (hinv : Cur bs₀ bs) (he : Extends bs r)
    (h : inequal f bs s = none) : ineqActive bs₀ r s f = false := by
  unfold ineqActive
  split
  · rfl
  · next op base hio =>
    split
    · rfl
    · next bv hbv =>
      cases hb : asNum bv with
      | none => simp
      | some b =>
        cases ha : asNum f with
        | none => simp
        | some a =>
          simp only [inequal, hinv.ext _ _ hbv, hb, ha, hio] at h
          split at h
          · cases h
          · split at h
            · next c' hc' =>
              rw [he _ _ hc']
              split at h
              · next hn => simp [hn]
              · split at h <;> cases h
            · cases h

/-- what a `Run` of goal `g` from `bs` to `r` means for the specification -/
def Goal.Sound (bs₀ : Bs) (vs : List String) (g : Goal) (bs r : Bs) : Prop :=
  match g with
  | .one p f | .arm p f =>
    p.plainPat = true → f.good = true → varsOf p ⊆ vs → Post vs bs r ∧ Sat bs₀ r p f
  | .kvs pm fm =>
    plainPatKvs pm = true → goodKvs fm = true → varsOfKvs pm ⊆ vs →
      Post vs bs r ∧ ObjSat bs₀ r pm fm
  | .arr xs L L' =>
    (∀ x ∈ xs, x.plainPat = true ∧ varsOf x ⊆ vs ∧ isVarV x = false) → (∀ x ∈ L, x.good = true) →
      -- the elements matched so far go in front of whatever is embedded into the left-over later,
      -- under bindings that may have grown by then
      Post vs bs r ∧ ∀ r', Extends r r' → ∀ ps, ArrEmb bs₀ r' ps L' → ArrEmb bs₀ r' (xs ++ ps) L

/-- binding a variable of the pattern, or the counterpart of one of its inequality variables -/
theorem Post.bind {vs : List String} {bs : Bs} {s : String} {v : V} (hs : SrcL vs s)
    (hv : v.good = true) (hl : lookup s bs = none) (hg : GoodBs bs) : Post vs bs ((s, v) :: bs) := by
  refine ⟨extends_cons_fresh hl, goodBs_cons hv hg, fun k hk => ?_⟩
  simp only [lookup] at hk
  split at hk
  · next hks => subst hks; exact Or.inr hs
  · exact Or.inl hk

theorem prebound {bs₀ bs : Bs} {vs : List String} {s : String} {x : V} {ov : IneqOp × String}
    (hPB : PB vs bs₀) (hc : Cur bs₀ bs) (hs : s ∈ vs) (hio : ineqOf s = some ov)
    (hx : lookup s bs = some x) : lookup s bs₀ = some x := by
  cases h0 : lookup s bs₀ with
  | none => exact absurd h0 (hPB s hs (by simp [hio]))
  | some y => rw [← hx, hc.ext _ _ h0]

/-- the non-variable elements of an array pattern, as the loop over them wants them -/
theorem elems_ok {vs : List String} {ps xs : List V} {vo : Option String}
    (hgv : getVariable ps none [] = .ok (vo, xs)) (hp : plainPatList ps = true)
    (hv : varsOfList ps ⊆ vs) : ∀ x ∈ xs, x.plainPat = true ∧ varsOf x ⊆ vs ∧ isVarV x = false := by
  obtain ⟨hout, _⟩ := getVariable_ok hgv
  intro x hx
  have hx' : x ∈ ps := (List.mem_filter.mp (hout ▸ hx)).1
  exact ⟨plainPatList_mem hp x hx', fun k hk => hv (varsOf_sub_list hx' hk),
    (getVariable_spec hgv).1 x hx⟩

theorem Run.sound {bs₀ : Bs} {vs : List String} (hPB : PB vs bs₀) {g : Goal} {bs r : Bs}
    (h : Run g bs r) : Cur bs₀ bs → g.Sound bs₀ vs bs r := by
  induction h with
  | fudge _ ih =>
    intro hc hp hf hv
    have := ih hc
    rw [fudge_plainPat hp, fudge_good hf] at this
    exact this hp hf hv
  | const hk => exact fun hc _ _ _ => ⟨Post.refl hc.good, Sat.scalar hk rfl⟩
  | anon => exact fun hc _ _ _ => ⟨Post.refl hc.good, Sat.anon⟩
  | @ineqOld s bs x b f a op vv c hs hx hb ha hio hrel hc' hcn =>
    intro hc _ _ hv
    have hx0 : lookup s bs₀ = some x := prebound hPB hc (varsOf_str_mem hs hv) hio hx
    exact ⟨Post.refl hc.good, Sat.ineq hio hx0 hb ha hrel hc' hcn⟩
  | @ineqNew s bs x b f a op vv hs hx hb ha hio hrel hl =>
    intro hc _ _ hv
    have hsv := varsOf_str_mem hs hv
    have hx0 : lookup s bs₀ = some x := prebound hPB hc hsv hio hx
    refine ⟨Post.bind (Or.inr ?_) rfl hl hc.good,
      Sat.ineq (cv := .num a) hio hx0 hb ha hrel (by simp [lookup]) rfl⟩
    exact List.mem_filterMap.mpr ⟨s, hsv, by rw [hio]; rfl⟩
  | boundVar _ _ _ hl ht =>
    intro hc
    have := hc.good _ _ hl
    simp [V.good, ht] at this
  | bound hs _ hq hl _ _ ih =>
    intro hc _ hf _
    have hb := hc.good _ _ hl
    obtain ⟨hpost, hsat⟩ := ih hc (good_plainPat _ hb) hf (good_varsOf _ hb ▸ fun _ h => nomatch h)
    exact ⟨hpost, Sat.var hs (inequal_none hc hpost.ext hq) (hpost.ext _ _ hl) hsat⟩
  | fresh hs _ hq hl =>
    intro hc _ hf hv
    have hpost := Post.bind (Or.inl (varsOf_str_mem hs hv)) hf hl hc.good
    exact ⟨hpost, Sat.var hs (inequal_none hc hpost.ext hq) (by simp [lookup]) (sat_refl _ _ _ hf)⟩
  | objEmpty => exact fun hc _ _ _ => ⟨Post.refl hc.good, Sat.objEmpty⟩
  | objProp hk hm _ _ ih₁ ih₂ =>
    intro hc hp hf hv
    simp only [V.plainPat, plainPatKvs, Bool.and_eq_true] at hp
    obtain ⟨hfk, hfv⟩ := goodKvs_mem hf _ hm
    obtain ⟨hpost₁, hsat₁⟩ := ih₁ hc rfl (by simpa [V.good] using hfk)
      (fun x hx => hv (List.mem_append_left _ (List.mem_append_left _ hx)))
    obtain ⟨hpost₂, hsat₂⟩ := ih₂ (hc.post hpost₁) hp.1.1 hfv
      (fun x hx => hv (List.mem_append_left _ (List.mem_append_right _ hx)))
    exact ⟨hpost₁.trans hpost₂, Sat.objProp hk hm (hsat₁.mono hpost₂.ext) hsat₂⟩
  | obj _ _ ih =>
    intro hc hp hf hv
    obtain ⟨hpost, hs⟩ := ih hc hp hf hv
    exact ⟨hpost, Sat.obj hs⟩
  | kvsNil => exact fun hc _ _ _ => ⟨Post.refl hc.good, ObjSat.nil⟩
  | kvsAbsent hk hl ho _ ih =>
    intro hc hp hf hv
    simp only [plainPatKvs, Bool.and_eq_true] at hp
    obtain ⟨hpost, hs⟩ := ih hc hp.2 hf (fun x hx => hv (List.mem_append_right _ hx))
    exact ⟨hpost, ObjSat.absent hk hl ho hs⟩
  | kvsPresent hk hl _ _ ih₁ ih₂ =>
    intro hc hp hf hv
    simp only [plainPatKvs, Bool.and_eq_true] at hp
    obtain ⟨hpost₁, hsat⟩ := ih₁ hc hp.1.1 (good_lookup hf hl)
      (fun x hx => hv (List.mem_append_left _ (List.mem_append_right _ hx)))
    obtain ⟨hpost₂, hs⟩ := ih₂ (hc.post hpost₁) hp.2 hf (fun x hx => hv (List.mem_append_right _ hx))
    exact ⟨hpost₁.trans hpost₂, ObjSat.present hk hl (hsat.mono hpost₂.ext) hs⟩
  | arrNone hgv _ ih =>
    intro hc hp hf hv
    obtain ⟨hpost, hemb⟩ := ih hc (elems_ok hgv hp hv) (goodList_mem hf)
    obtain ⟨_, (rfl : _ = _)⟩ := getVariable_spec hgv
    exact ⟨hpost, Sat.arr (by simpa using hemb _ (Extends.refl _) [] ArrEmb.nil)⟩
  | arrVar hgv hloop hpick _ ih₁ ih₂ =>
    intro hc hp hf hv
    obtain ⟨_, _, hperm⟩ := getVariable_spec hgv
    have hfa := goodList_mem hf
    obtain ⟨hpost₁, hemb⟩ := ih₁ hc (elems_ok hgv hp hv) hfa
    obtain ⟨hpost₂, hsat⟩ := ih₂ (hc.post hpost₁) rfl (hfa _ (hloop.arr_sub rfl _ hpick.mem))
      (fun k hk => hv (varsOf_sub_list (hperm.mem_iff.mpr List.mem_cons_self) hk))
    exact ⟨hpost₁.trans hpost₂, Sat.arr ((hemb _ hpost₂.ext _ (.cons hpick hsat .nil)).perm
      ((List.perm_append_singleton _ _).trans hperm.symm))⟩
  | arrSkip hgv ho _ ih =>
    intro hc hp hf hv
    obtain ⟨_, _, hperm⟩ := getVariable_spec hgv
    obtain ⟨hpost, hemb⟩ := ih hc (elems_ok hgv hp hv) (goodList_mem hf)
    exact ⟨hpost, Sat.arr ((hemb _ (Extends.refl _) _ (.skip ho .nil)).perm
      ((List.perm_append_singleton _ _).trans hperm.symm))⟩
  | loopNil => exact fun hc _ _ => ⟨Post.refl hc.good, fun _ _ _ h => h⟩
  | loopScalar hsc hpick _ ih =>
    intro hc hxs hL
    obtain ⟨hpost, hemb⟩ := ih hc (fun y hy => hxs y (List.mem_cons_of_mem _ hy))
      (fun y hy => hL y (hpick.sub y hy))
    exact ⟨hpost, fun r' he ps h => .cons hpick
      (Sat.scalar (scalar_const hsc (hxs _ List.mem_cons_self).2.2) rfl) (hemb r' he ps h)⟩
  | loopStruct _ hpick _ _ ih₁ ih₂ =>
    intro hc hxs hL
    obtain ⟨hxp, hxv, _⟩ := hxs _ List.mem_cons_self
    obtain ⟨hpost₁, hsat⟩ := ih₁ hc hxp (hL _ hpick.mem) hxv
    obtain ⟨hpost₂, hemb⟩ := ih₂ (hc.post hpost₁) (fun y hy => hxs y (List.mem_cons_of_mem _ hy))
      (fun y hy => hL y (hpick.sub y hy))
    exact ⟨hpost₁.trans hpost₂, fun r' he ps h => .cons hpick (hsat.mono (hpost₂.ext.trans he))
      (hemb r' he ps h)⟩
