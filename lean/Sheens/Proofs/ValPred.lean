import Sheens.Value

/-!
# Value predicates

`ValPred P` says that `P : V → Prop` holds of the JSON scalars and holds of an array / object exactly
when it holds of the elements / member values.  "Hereditarily JSON-plain" (`Sheens.C09.plainV`) is
the instance of interest.  `AllBs P` lifts `P` to association lists (bindings, objects).
-/

theorem mem_of_lookup {k : String} {v : V} {bs : Bs} (h : lookup k bs = some v) : (k, v) ∈ bs := by
  induction bs with
  | nil => cases h
  | cons kv rest ih =>
    obtain ⟨k', v'⟩ := kv
    simp only [lookup] at h
    split at h
    · next heq => cases h; subst heq; exact List.mem_cons_self
    · exact List.mem_cons_of_mem _ (ih h)

namespace Plain

structure ValPred (P : V → Prop) : Prop where
  null : P .null
  bool : ∀ b, P (.bool b)
  num  : ∀ q, P (.num q)
  str  : ∀ s, P (.str s)
  arr  : ∀ xs, P (.arr xs) ↔ ∀ x ∈ xs, P x
  obj  : ∀ kvs, P (.obj kvs) ↔ ∀ kv ∈ kvs, P kv.2

def AllBs (P : V → Prop) (bs : List (String × V)) : Prop := ∀ kv ∈ bs, P kv.2

section
variable {P : V → Prop}

theorem pred_fudge (hP : ValPred P) {v : V} (h : P v) : P (fudge v) := by
  cases v <;> first | exact h | exact hP.num _

theorem allBs_nil : AllBs P [] := fun _ h => by cases h

theorem allBs_cons {k : String} {v : V} {bs : List (String × V)} (hv : P v) (hb : AllBs P bs) :
    AllBs P ((k, v) :: bs) :=
  List.forall_mem_cons.mpr ⟨hv, hb⟩

theorem all_lookup {k : String} {v : V} {bs : List (String × V)} (hb : AllBs P bs)
    (h : lookup k bs = some v) : P v := hb (k, v) (mem_of_lookup h)

end

end Plain
