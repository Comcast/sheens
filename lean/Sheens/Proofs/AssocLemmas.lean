import Sheens.SioCrew

/-! # Lemmas about the association-list helpers `Sio.find` / `Sio.put` / `Sio.del` -/

namespace Sio

variable {α : Type} {k k' : String} {v : α} {l : List (String × α)}

theorem find_put (k k' : String) (v : α) (l : List (String × α)) :
    find k (put k' v l) = if k = k' then some v else find k l := by
  induction l with
  | nil => rfl
  | cons kv rest ih =>
    obtain ⟨k'', v''⟩ := kv
    by_cases e' : k' = k''
    · subst e'
      rw [put, if_pos rfl, find, find]
      by_cases e : k = k'
      · rw [if_pos e, if_pos e]
      · rw [if_neg e, if_neg e, if_neg e]
    · rw [put, if_neg e', find, find, ih]
      by_cases e : k = k''
      · rw [if_pos e, if_pos e, if_neg (e ▸ Ne.symm e')]
      · rw [if_neg e, if_neg e]

theorem find_put_self : find k (put k v l) = some v := by
  rw [find_put, if_pos rfl]

theorem find_put_ne (h : k ≠ k') : find k (put k' v l) = find k l := by
  rw [find_put, if_neg h]

theorem find_del (k k' : String) (l : List (String × α)) :
    find k (del k' l) = if k = k' then none else find k l := by
  induction l with
  | nil => exact (ite_self _).symm
  | cons kv rest ih =>
    obtain ⟨k'', v''⟩ := kv
    by_cases e' : k' = k''
    · subst e'
      rw [del, if_pos rfl, ih, find]
      by_cases e : k = k'
      · rw [if_pos e, if_pos e]
      · rw [if_neg e, if_neg e, if_neg e]
    · rw [del, if_neg e', find, find, ih]
      by_cases e : k = k''
      · rw [if_pos e, if_pos e, if_neg (e ▸ Ne.symm e')]
      · rw [if_neg e, if_neg e]

theorem find_del_self : find k (del k l) = none := by
  rw [find_del, if_pos rfl]

theorem find_del_ne (h : k ≠ k') : find k (del k' l) = find k l := by
  rw [find_del, if_neg h]

theorem find_eq_none_of_not_mem (h : k ∉ l.map (·.1)) : find k l = none := by
  induction l with
  | nil => rfl
  | cons kv rest ih =>
    obtain ⟨k', v'⟩ := kv
    simp only [List.map_cons, List.mem_cons, not_or] at h
    simp only [find, if_neg h.1]
    exact ih h.2

theorem mem_keys_of_find {k : String} {v : α} {l : List (String × α)} (h : find k l = some v) :
    k ∈ l.map (·.1) := by
  false_or_by_contra
  next hn => rw [find_eq_none_of_not_mem hn] at h; cases h

/-- the keys after a `put`: the same keys, or one more at the end -/
theorem keys_put (k : String) (v : α) (l : List (String × α)) :
    (put k v l).map (·.1) = if k ∈ l.map (·.1) then l.map (·.1) else l.map (·.1) ++ [k] := by
  induction l with
  | nil => rfl
  | cons kv rest ih =>
    obtain ⟨k', v'⟩ := kv
    rw [put]
    by_cases e : k = k'
    · rw [if_pos e, if_pos (e ▸ List.mem_cons_self)]
      subst e; rfl
    · rw [if_neg e, List.map_cons, ih, List.map_cons]
      by_cases m : k ∈ rest.map (·.1)
      · rw [if_pos m, if_pos (List.mem_cons_of_mem _ m)]
      · rw [if_neg m, if_neg fun h => (List.mem_cons.mp h).elim e m]
        rfl

theorem nodup_keys_put (h : (l.map (·.1)).Nodup) :
    ((put k v l).map (·.1)).Nodup := by
  rw [keys_put]
  split
  · exact h
  · next hn => exact (List.perm_append_singleton k _).nodup_iff.mpr (List.nodup_cons.mpr ⟨hn, h⟩)

theorem del_eq_self_iff : del k l = l ↔ find k l = none := by
  constructor
  · intro h; rw [← h]; exact find_del_self
  · intro h
    induction l with
    | nil => rfl
    | cons kv rest ih =>
      obtain ⟨k', v'⟩ := kv
      simp only [find] at h
      split at h
      · cases h
      · next hne => simp only [del, if_neg hne, ih h]

theorem put_eq_self_iff : put k v l = l ↔ find k l = some v := by
  constructor
  · intro h; rw [← h]; exact find_put_self
  · intro h
    induction l with
    | nil => cases h
    | cons kv rest ih =>
      obtain ⟨k', v'⟩ := kv
      simp only [find] at h
      split at h
      · next heq => cases h; subst heq; simp [put]
      · next hne => simp only [put, if_neg hne, ih h]

theorem put_put_self (k : String) (v w : α) (l : List (String × α)) :
    put k v (put k w l) = put k v l := by
  induction l with
  | nil => simp [put]
  | cons kv rest ih =>
    obtain ⟨k', v'⟩ := kv
    simp only [put]
    split
    · simp [put]
    · next hne => simp only [put, if_neg hne, ih]

theorem find_map_snd {β : Type} (f : α → β) (k : String) (l : List (String × α)) :
    find k (l.map (fun p => (p.1, f p.2))) = (find k l).map f := by
  induction l with
  | nil => rfl
  | cons kv rest ih =>
    obtain ⟨k', v'⟩ := kv
    simp only [List.map_cons, find]
    split
    · rfl
    · exact ih

theorem find_filter_key {x : String} (h : k ≠ x) :
    find k (l.filter (fun p => p.1 != x)) = find k l := by
  induction l with
  | nil => rfl
  | cons kv rest ih =>
    obtain ⟨k', v'⟩ := kv
    rw [List.filter_cons]
    by_cases hx : k' = x
    · subst hx
      rw [if_neg (by simp), find, if_neg h, ih]
    · rw [if_pos (by simpa using hx), find, find, ih]

/-- A fold of keyed operations, each touching only its own key, seen from one key `k`: when the keys
    are distinct, only the entry of `k` counts. -/
theorem foldl_find {σ β γ : Type} {op : σ → String × β → σ} {obs : σ → γ} {k : String} {g : γ → β → γ}
    (hne : ∀ s p, p.1 ≠ k → obs (op s p) = obs s) (hk : ∀ s b, obs (op s (k, b)) = g (obs s) b)
    (l : List (String × β)) (s : σ) (hn : (l.map (·.1)).Nodup) :
    obs (l.foldl op s) = (find k l).elim (obs s) (g (obs s)) := by
  induction l generalizing s with
  | nil => rfl
  | cons kb rest ih =>
    obtain ⟨k', b⟩ := kb
    rw [List.map_cons, List.nodup_cons] at hn
    rw [List.foldl_cons, ih _ hn.2]
    by_cases e : k = k'
    · subst e
      rw [find_eq_none_of_not_mem hn.1]
      simp only [find, if_true]
      exact hk s b
    · simp only [find, if_neg e]
      rw [hne s _ (Ne.symm e)]

end Sio
