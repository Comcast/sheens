import Sheens.SioCrew
import Sheens.Proofs.AssocLemmas

/-!
# Lemmas about reported changes: `applyChanges`, the net list of `getChanged`, its suppression fold

Everything is stated per machine id: what a list of changes with distinct keys does to the store
entry of one id depends only on the entry for that id.
-/

namespace Sio

theorem copyB_some_copyB (b : Option Bs) : copyB (some (copyB b)) = copyB b := rfl

theorem defaultState_stateCopy (s : State) : defaultState (some (stateCopy s)) = defaultState (some s) := rfl

theorem stateCopy_stateCopy (s : State) : stateCopy (stateCopy s) = stateCopy s := rfl

theorem defaultState_defaultState (o : Option State) : defaultState (some (defaultState o)) = defaultState o := by
  cases o with
  | none => dsimp only [defaultState]; rw [ite_self]; rfl
  | some st =>
    dsimp only [defaultState]
    by_cases h : (st.node == "") = true
    · rw [if_pos h, ite_self]; rfl
    · rw [if_neg h, if_neg h]; rfl

/-! ## one change applied to a store -/

def noStored : Stored := { state := none, src := none }

/-- a non-deleting change applied to a stored record -/
def upd (old : Stored) (ch : Changed) : Stored :=
  let s1 := match ch.state with | some x => { old with state := some (stateCopy x) } | none => old
  match ch.src with | some x => { s1 with src := some x } | none => s1

/-- one step of the consumer's fold -/
def applyOne (st : List (String × Stored)) (mid : String) (ch : Changed) : List (String × Stored) :=
  if ch.deleted then del mid st else put mid (upd ((find mid st).getD noStored) ch) st

/-- what one change does to the entry of its own id -/
def app1 (o : Option Stored) (ch : Changed) : Option Stored :=
  if ch.deleted then none else some (upd (o.getD noStored) ch)

theorem applyChanges_nil (st : List (String × Stored)) : applyChanges st [] = st := rfl

theorem applyChanges_one (st : List (String × Stored)) (mid : String) (ch : Changed) :
    applyChanges st [(mid, ch)] = applyOne st mid ch := rfl

theorem applyChanges_append (st : List (String × Stored)) (l1 l2 : List (String × Changed)) :
    applyChanges st (l1 ++ l2) = applyChanges (applyChanges st l1) l2 := by
  simp only [applyChanges, List.foldl_append]

theorem upd_upd (old : Stored) (ch : Changed) : upd (upd old ch) ch = upd old ch := by
  unfold upd
  cases ch.state <;> cases ch.src <;> rfl

theorem find_applyOne_self {st : List (String × Stored)} {mid : String} {ch : Changed} :
    find mid (applyOne st mid ch) = app1 (find mid st) ch := by
  unfold applyOne app1
  split
  · exact find_del_self
  · exact find_put_self

theorem find_applyOne_ne {st : List (String × Stored)} {mid k : String} {ch : Changed} (h : k ≠ mid) :
    find k (applyOne st mid ch) = find k st := by
  unfold applyOne
  split
  · exact find_del_ne h
  · exact find_put_ne h

/-- a list of changes with distinct ids, seen from one id -/
theorem find_applyChanges {l : List (String × Changed)} (hn : (l.map (·.1)).Nodup)
    (st : List (String × Stored)) (mid : String) :
    find mid (applyChanges st l) = (find mid l).elim (find mid st) (app1 (find mid st)) :=
  foldl_find (obs := find mid) (fun _ _ h => find_applyOne_ne h.symm) (fun _ _ => find_applyOne_self) l st hn

/-! ## the net report -/

/-- the net form of one cached change -/
def net (ch : Changed) : Changed :=
  if ch.deleted then { state := none, src := none, deleted := true }
  else { state := ch.state.map stateCopy, src := ch.src, deleted := false }

def netList (changed : List (String × Changed)) : List (String × Changed) :=
  (changed.filter (fun p => p.1 != captainId)).map (fun p => (p.1, net p.2))

theorem netList_eq (changed : List (String × Changed)) :
    (changed.filter (fun p => p.1 != captainId)).map (fun (mid, ch) =>
      if ch.deleted then (mid, ({ state := none, src := none, deleted := true } : Changed))
      else (mid, { state := ch.state.map stateCopy, src := ch.src, deleted := false })) = netList changed := by
  unfold netList
  congr 1
  funext p
  obtain ⟨mid, ch⟩ := p
  simp only [net]
  split <;> rfl

theorem find_netList {changed : List (String × Changed)} {mid : String} (h : mid ≠ captainId) :
    find mid (netList changed) = (find mid changed).map net := by
  unfold netList
  rw [find_map_snd, find_filter_key h]

theorem nodup_netList {changed : List (String × Changed)} (h : (changed.map (·.1)).Nodup) :
    ((netList changed).map (·.1)).Nodup := by
  unfold netList
  rw [List.map_map]
  exact h.sublist (List.filter_sublist.map Prod.fst)

/-! ## views

What a store or a crew says about a machine is a `View`.  A cached change is a function on views
(`actV`), and every crew operation does to the live view of its machine exactly what it adds to the
pending function: that is the whole reason the invariant of `C15` is preserved. -/

abbrev View := State × Option V

/-- what a store says about a stored record -/
def sview (s : Stored) : View := (defaultState s.state, s.src)

/-- what the live crew says about a machine -/
def mview (m : Machine) : View := (defaultState (some m.state), m.src)

/-- `SetMachine(src?, state?)` on what is known of a machine: a part that is given replaces, a missing
    one keeps what there was; an unknown machine is at the default state and has no source -/
def setV (src : Option V) (state : Option State) (o : Option View) : View :=
  (match state with | some _ => defaultState state | none => (o.map (·.1)).getD (defaultState none),
   match src with | some x => some x | none => o.bind (·.2))

theorem setV_none (src : Option V) (state : Option State) :
    setV src state none = (defaultState state, src) := by
  cases src <;> cases state <;> rfl

/-- a cached change as a function on views -/
def actV (ch : Changed) (v : Option View) : Option View :=
  if ch.deleted then none else some (setV ch.src ch.state v)

/-- the pending effect as a function on views -/
def effV (och : Option Changed) (v : Option View) : Option View :=
  match och with | none => v | some ch => actV ch v

theorem app1_view (o : Option Stored) (ch : Changed) :
    (app1 o (net ch)).map sview = actV ch (o.map sview) := by
  obtain ⟨st, sr, d⟩ := ch
  cases d
  · cases o <;> cases st <;> cases sr <;> rfl
  · rfl

/-- what a store will say about a machine once the pending changes are reported -/
theorem view_apply_netList {changed : List (String × Changed)} (hn : (changed.map (·.1)).Nodup)
    {st : List (String × Stored)} {mid : String} (h : mid ≠ captainId) :
    (find mid (applyChanges st (netList changed))).map sview =
      effV (find mid changed) ((find mid st).map sview) := by
  rw [find_applyChanges (nodup_netList hn), find_netList h]
  cases find mid changed with
  | none => rfl
  | some ch => exact app1_view _ ch

/-- the machine `SetMachine` leaves under the id: `om` is what was there -/
def newM (resolve : V → Option Spec) (om : Option Machine) (src : Option V) (state : Option State) : Machine :=
  let m : Machine := match om with
    | none => { spec := none, src := none, state := defaultState state }
    | some m => (match state with
      | some _ => { m with state := defaultState state }
      | none => m)
  match src with
  | some s => { m with src := some s, spec := resolve s }
  | none => m

/-- the cached change `SetMachine` leaves under the id: `ch` is what was cached -/
def newCh (ch : Changed) (src : Option V) (state : Option State) : Changed :=
  let ch := match src with | some s => { ch with src := some s } | none => ch
  match state with | some _ => { ch with state := some (defaultState state) } | none => ch

theorem setMachine_eq (resolve : V → Option Spec) (c : Crew) (mid : String) (src : Option V)
    (state : Option State) :
    setMachine resolve c mid src state =
      { c with machines := put mid (newM resolve (find mid c.machines) src state) c.machines,
               changed := if src.isSome || state.isSome then put mid (newCh (changeOf c mid) src state) c.changed
                          else c.changed } := by
  unfold setMachine newM newCh
  cases find mid c.machines <;> cases state <;> cases src <;> rfl

theorem mview_newM (resolve : V → Option Spec) (om : Option Machine) (src : Option V)
    (state : Option State) :
    mview (newM resolve om src state) = setV src state (om.map mview) := by
  cases om <;> cases src <;> cases state <;> simp [newM, mview, setV, defaultState_defaultState]

/-- the change `setMachine` caches is the pending one followed by `setV src state` -/
theorem actV_newCh {och : Option Changed} (hnd : (och.getD emptyChanged).deleted = false)
    (src : Option V) (state : Option State) (v : Option View) :
    actV (newCh (och.getD emptyChanged) src state) v = some (setV src state (effV och v)) := by
  cases och with
  | none => cases src <;> cases state <;> simp [actV, newCh, setV, effV, emptyChanged, defaultState_defaultState]
  | some ch =>
    obtain ⟨st, sr, d⟩ := ch
    obtain rfl : d = false := hnd
    cases src <;> cases state <;> simp [actV, newCh, setV, effV, defaultState_defaultState]

/-- the change `runMachine` caches is the pending one followed by `setV none (some x)` -/
theorem actV_setState {och : Option Changed} (hnd : (och.getD emptyChanged).deleted = false)
    (x : State) (v : Option View) :
    actV { (och.getD emptyChanged) with state := some x } v = some (setV none (some x) (effV och v)) := by
  cases och with
  | none => rfl
  | some ch =>
    simp only [Option.getD_some] at hnd ⊢
    simp only [effV, actV, hnd, Bool.false_eq_true, if_false]
    cases ch.src <;> rfl

/-! ## the suppression fold of `getChanged` -/

/-- the store reflects every report remembered in the cache: applying it again changes nothing -/
def Cached (prev : List (String × Changed)) (st : List (String × Stored)) : Prop :=
  ∀ mid q, find mid prev = some q → applyOne st mid q = st

/-- whether a change is a fixpoint of a store depends only on the store's entry for that id -/
theorem applyOne_fix_iff (st : List (String × Stored)) (mid : String) (q : Changed) :
    applyOne st mid q = st ↔ app1 (find mid st) q = find mid st := by
  unfold applyOne app1
  split
  · rw [del_eq_self_iff]; exact eq_comm
  · rw [put_eq_self_iff]; exact eq_comm

theorem applyOne_idem {st : List (String × Stored)} {mid : String} {p : Changed} :
    applyOne (applyOne st mid p) mid p = applyOne st mid p := by
  rw [applyOne_fix_iff, find_applyOne_self]
  unfold app1
  split
  · rfl
  · rw [Option.getD_some, upd_upd]

/-- the cache after the report `(k, ch)` was emitted: whatever the cache now holds for `k` is `ch` -/
theorem Cached.emit {st : List (String × Stored)} {prev prev' : List (String × Changed)}
    {k : String} {ch : Changed} (hI : Cached prev st)
    (hother : ∀ mid, mid ≠ k → find mid prev' = find mid prev)
    (hself : ∀ q, find k prev' = some q → q = ch) : Cached prev' (applyOne st k ch) := by
  intro mid q hq
  by_cases hk : mid = k
  · subst hk
    rw [hself q hq]
    exact applyOne_idem
  · rw [hother mid hk] at hq
    rw [applyOne_fix_iff, find_applyOne_ne hk, ← applyOne_fix_iff]
    exact hI mid q hq

/-- one step of `GetChanged`'s loop over the net changes: (what was reported last, what is reported now) -/
def gstep (same : Changed → Changed → Bool)
    (acc : List (String × Changed) × List (String × Changed)) (p : String × Changed) :
    List (String × Changed) × List (String × Changed) :=
  let (prev, out) := acc
  if p.2.deleted then (del p.1 prev, out ++ [p])
  else
    match find p.1 prev with
    | some q => if same p.2 q then (prev, out) else (put p.1 p.2 prev, out ++ [p])
    | none => (put p.1 p.2 prev, out ++ [p])

theorem getChanged_eq (same : Changed → Changed → Bool) (c : Crew) :
    getChanged same c =
      ({ c with changed := [], previous := ((netList c.changed).foldl (gstep same) (c.previous, [])).1 },
       ((netList c.changed).foldl (gstep same) (c.previous, [])).2) := by
  rw [← netList_eq]
  rfl

variable {same : Changed → Changed → Bool}
  (hsame : ∀ a b, same a b = true → ∀ st mid, applyChanges st [(mid, a)] = applyChanges st [(mid, b)])
  (store : List (String × Stored))
include hsame

/-- One step of the fold: whether the report is emitted or suppressed, the emitted reports now have the
    effect of the change on the store, and the store reflects the cache. -/
theorem gstep_inv {prev out : List (String × Changed)} (k : String) (ch : Changed)
    (hI : Cached prev (applyChanges store out)) :
    applyChanges store (gstep same (prev, out) (k, ch)).2 = applyOne (applyChanges store out) k ch ∧
      Cached (gstep same (prev, out) (k, ch)).1 (applyOne (applyChanges store out) k ch) := by
  have hemit : ∀ prev', (∀ mid, mid ≠ k → find mid prev' = find mid prev) →
      (∀ q, find k prev' = some q → q = ch) →
      applyChanges store (out ++ [(k, ch)]) = applyOne (applyChanges store out) k ch ∧
        Cached prev' (applyOne (applyChanges store out) k ch) :=
    fun _ hother hself => ⟨(applyChanges_append ..).trans (applyChanges_one ..), hI.emit hother hself⟩
  have hput := hemit (put k ch prev) (fun _ => find_put_ne)
    fun q hq => Option.some.inj (find_put_self.symm.trans hq).symm
  dsimp only [gstep]
  by_cases hd : ch.deleted = true
  · rw [if_pos hd]
    exact hemit _ (fun _ => find_del_ne) fun q hq => nomatch find_del_self.symm.trans hq
  · rw [if_neg hd]
    cases hf : find k prev with
    | none => exact hput
    | some q =>
      dsimp only
      by_cases hs : same ch q = true
      · have hfix : applyOne (applyChanges store out) k ch = applyChanges store out :=
          (hsame ch q hs _ k).trans (hI k q hf)
        rw [if_pos hs, hfix]
        exact ⟨rfl, hI⟩
      · rw [if_neg hs]
        exact hput

/-- The fold invariant: the emitted reports have the same effect on the store as the whole net
    list, and the store reflects every report in the cache. -/
theorem gfold_inv (l prev out : List (String × Changed)) (hI : Cached prev (applyChanges store out)) :
    applyChanges store (l.foldl (gstep same) (prev, out)).2 = applyChanges (applyChanges store out) l ∧
      Cached (l.foldl (gstep same) (prev, out)).1 (applyChanges store (l.foldl (gstep same) (prev, out)).2) := by
  induction l generalizing prev out with
  | nil => exact ⟨rfl, hI⟩
  | cons p rest ih =>
    obtain ⟨h1, h2⟩ := gstep_inv hsame store p.1 p.2 hI
    have := ih _ _ (h1 ▸ h2)
    rwa [h1] at this

end Sio
