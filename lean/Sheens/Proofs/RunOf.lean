import Sheens.Proofs.Run
import Sheens.Proofs.ArrIndex

/-!
# Every result of the matcher is a `Run`

The one simultaneous induction over the eleven functions of `Match.lean` that follows single
results: `RunOf n` is the statement at fuel `n`, `runOf_succ` the step for all eleven together,
`runOf_all` the induction on the fuel; `matchF_run` and, for the list-level functions, `matchWith_run`,
`arrayOne_run`, `arraycat_run`, `loopXs_run` are what the rest uses.  For the array arm a branch
`(bss, mm)` of `arraycatMatch` together with the shared scalar set `fxs` stands for the left-over
`L` of the `Run` it came from (`Rem`).
-/

/-- the facts a branch still offers are distinct elements of the left-over `L` -/
structure Rem (mm : List (Nat × V)) (fxs : List Scalar) (L : List V) : Prop where
  nodup : IdxNodup mm
  pick : PickAll (remOf mm fxs) L

theorem Rem.init (fa : List V) : Rem (indexStruct fa 0) (indexScalars fa []) fa :=
  ⟨indexStruct_nodup, index_pickAll₀ fa⟩

theorem Rem.struct {mm fxs L j fact} (h : Rem mm fxs L) (hm : (j, fact) ∈ mm) :
    ∃ L₁, Pick fact L L₁ ∧ Rem (mm.filter (fun e => e.1 != j)) fxs L₁ := by
  obtain ⟨a, b, rfl, hf⟩ := split_of_mem h.nodup hm
  have hp : PickAll (a.map (·.2) ++ fact :: (b.map (·.2) ++ fxs.map Scalar.toV)) L := by
    simpa [remOf] using h.pick
  obtain ⟨L₁, hp1, hp2⟩ := hp.remove
  exact ⟨L₁, hp1, hf ▸ idxNodup_remove a h.nodup, by simpa [remOf, hf] using hp2⟩

theorem Rem.scalar {mm fxs L sc} (h : Rem mm fxs L) (hm : sc ∈ fxs) :
    ∃ L₁, Pick sc.toV L L₁ ∧ Rem mm (fxs.erase sc) L₁ := by
  obtain ⟨l1, l2, _, rfl, he⟩ := List.exists_erase_eq hm
  have hp : PickAll ((mm.map (·.2) ++ l1.map Scalar.toV) ++ sc.toV :: l2.map Scalar.toV) L := by
    simpa [remOf] using h.pick
  obtain ⟨L₁, hp1, hp2⟩ := hp.remove
  exact ⟨L₁, hp1, h.nodup, by simpa [remOf, he] using hp2⟩

theorem Rem.leftover {mm fxs L j fact k} (h : Rem mm fxs L)
    (hm : (j, fact) ∈ mm ++ leftovers fxs k) : ∃ L', Pick fact L L' := by
  apply h.pick.pick_mem
  rcases List.mem_append.mp hm with hm | hm
  · exact List.mem_append_left _ (List.mem_map_of_mem (f := (·.2)) hm)
  · obtain ⟨sc, h1, h2⟩ := leftovers_mem hm
    obtain rfl : fact = sc.toV := h2
    exact List.mem_append_right _ (List.mem_map_of_mem h1)

/-- one `arrayOne` step: the new branch `(acc, mm')` made from `(bss, mm)` -/
def Step (pat : V) (bss : List Bs) (mm : List (Nat × V)) (acc : List Bs) (mm' : List (Nat × V)) :
    Prop :=
  ∃ j fact, (j, fact) ∈ mm ∧ mm' = mm.filter (fun e => e.1 != j) ∧
    ∀ r ∈ acc, ∃ b ∈ bss, Run (.one pat fact) b r

/-- the whole loop over `xs`: the branch `(bss', mm')` at the end, made from `(bss, mm)` -/
structure LoopRes (xs : List V) (fxs fxs' : List Scalar) (bss : List Bs) (mm : List (Nat × V))
    (bss' : List Bs) (mm' : List (Nat × V)) : Prop where
  facts : ∀ e ∈ mm', e ∈ mm
  scalars : ∀ sc ∈ fxs', sc ∈ fxs
  run : ∀ r ∈ bss', ∃ b ∈ bss, ∀ L, Rem mm fxs L → ∃ L', Rem mm' fxs' L' ∧ Run (.arr xs L L') b r

theorem LoopRes.cons_scalar {x sc xs fxs fxs' bss mm bss' mm'} (hsc : x.scalar? = some sc)
    (hm : sc ∈ fxs) (h : LoopRes xs (fxs.erase sc) fxs' bss mm bss' mm') :
    LoopRes (x :: xs) fxs fxs' bss mm bss' mm' := by
  refine ⟨h.facts, fun s hs => List.mem_of_mem_erase (h.scalars s hs), fun r hr => ?_⟩
  obtain ⟨b, hb, hrun⟩ := h.run r hr
  refine ⟨b, hb, fun L hL => ?_⟩
  obtain ⟨L₁, hp, hL₁⟩ := hL.scalar hm
  obtain ⟨L', hL', hrun⟩ := hrun L₁ hL₁
  exact ⟨L', hL', Run.loopScalar hsc (scalar_toV hsc ▸ hp) hrun⟩

theorem LoopRes.cons_struct {x xs fxs fxs' bss mm acc mm₁ bss' mm'} (hsc : x.scalar? = none)
    (hs : Step x bss mm acc mm₁) (h : LoopRes xs fxs fxs' acc mm₁ bss' mm') :
    LoopRes (x :: xs) fxs fxs' bss mm bss' mm' := by
  obtain ⟨j, fact, hm, rfl, hacc⟩ := hs
  refine ⟨fun e he => (List.mem_filter.mp (h.facts e he)).1, h.scalars, fun r hr => ?_⟩
  obtain ⟨b₁, hb₁, hrun⟩ := h.run r hr
  obtain ⟨b, hb, hrun₁⟩ := hacc b₁ hb₁
  refine ⟨b, hb, fun L hL => ?_⟩
  obtain ⟨L₁, hp, hL₁⟩ := hL.struct hm
  obtain ⟨L', hL', hrun⟩ := hrun L₁ hL₁
  exact ⟨L', hL', Run.loopStruct hsc hp hrun₁ hrun⟩

theorem inequal_run {f : V} {bs : Bs} {s : String} {rs : List Bs} (hv : isVar s = true)
    (h : inequal f bs s = some rs) :
    ∀ r ∈ rs, Run (.arm (.str s) f) bs r := by
  intro r hr
  unfold inequal at h
  split at h
  · cases h
  · next x hx =>
    split at h
    · cases h
    · next b hb =>
      split at h
      · cases h
      · next a ha =>
        split at h
        · cases h
        · next op vv hio =>
          by_cases hrel : op.rel a b = true
          · rw [if_neg (by simp [hrel])] at h
            split at h
            · next c' hc' =>
              split at h
              · cases h
              · next c hc =>
                split at h
                · next hca =>
                  cases h
                  obtain rfl := List.mem_singleton.mp hr
                  exact Run.ineqOld hv hx hb ha hio hrel hc' (hca ▸ hc)
                · cases h; cases hr
            · next hnone =>
              cases h
              obtain rfl := List.mem_singleton.mp hr
              exact Run.ineqNew hv hx hb ha hio hrel hnone
          · rw [if_pos (by simpa using hrel)] at h; cases h; cases hr


theorem arrayOne_inl {n : Nat} : ∀ {bss pat mm todo r},
    arrayOne n bss pat mm todo = .inl r → ∀ rs, r ≠ .ok rs := by
  induction n with
  | zero => intro bss pat mm todo r h rs; cases h; nofun
  | succ n ih =>
    intro bss pat mm todo r h rs
    cases todo with
    | nil => cases h
    | cons e todo =>
      obtain ⟨j, fact⟩ := e
      rw [arrayOne_cons] at h
      split at h
      · split at h
        · next r' hr' => cases h; exact ih hr' rs
        · split at h <;> cases h
      · next hne => cases h; exact hne rs

theorem arraycat_inl : ∀ n bsss pat fxas r,
    arraycat n bsss pat fxas = .inl r → ∀ rs, r ≠ .ok rs := by
  intro n
  induction n with
  | zero => intro bsss pat fxas r h rs; cases h; nofun
  | succ n ih =>
    intro bsss pat fxas r h rs
    cases bsss with
    | nil => cases h
    | cons bss bsss =>
      cases fxas with
      | nil => cases h
      | cons mm fxas =>
        rw [arraycat_cons] at h
        split at h
        · next r' hr' => cases h; exact arrayOne_inl hr' rs
        · split at h
          · next r' hr' => cases h; exact ih _ _ _ _ hr' rs
          · cases h

theorem loopXs_inl {n : Nat} : ∀ {xs fxs bsss fxas flag rs},
    loopXs n xs fxs bsss fxas flag = .inl (.ok rs) → rs = [] := by
  induction n with
  | zero => intro xs fxs bsss fxas flag rs h; cases h
  | succ n ih =>
    intro xs fxs bsss fxas flag rs h
    cases xs with
    | nil => cases h
    | cons x xs =>
      rw [loopXs_cons] at h
      split at h
      · split at h
        · exact ih h
        · cases h; rfl
      · by_cases hf : flag = true
        · rw [if_pos hf] at h; cases h; rfl
        · rw [if_neg hf] at h
          split at h
          · next r' hr' => cases h; exact absurd rfl (arraycat_inl _ _ _ _ _ hr' rs)
          · split at h
            · cases h; rfl
            · exact ih h

/-- adequacy at fuel `n`, one field per function of the `mutual` block: every result of the function
    is a `Run` of the goal the function stands for -/
structure RunOf (n : Nat) : Prop where
  matchF : ∀ {p f bs rs}, matchF n p f bs = .ok rs → ∀ r ∈ rs, Run (.one p f) bs r
  matchStr : ∀ {s f bs rs}, matchStr n s f bs = .ok rs →
    ∀ r ∈ rs, Run (.arm (.str s) f) bs r
  matchBound : ∀ {s b f bs rs}, isVar s = true → isAnon s = false → inequal f bs s = none →
    lookup s bs = some b → matchBound n b f bs = .ok rs → ∀ r ∈ rs, Run (.arm (.str s) f) bs r
  matchObj : ∀ {pm f bs rs}, matchObj n pm f bs = .ok rs →
    ∀ r ∈ rs, Run (.arm (.obj pm) f) bs r
  matchArr : ∀ {ps f bs rs}, matchArr n ps f bs = .ok rs →
    ∀ r ∈ rs, Run (.arm (.arr ps) f) bs r
  matchWith : ∀ {bss p f rs}, matchWith n bss p f = .ok rs →
    ∀ r ∈ rs, ∃ bs ∈ bss, Run (.one p f) bs r
  mapcat : ∀ {bss pm fm rs}, mapcat n bss pm fm = .ok rs →
    ∀ r ∈ rs, ∃ bs ∈ bss, Run (.kvs pm fm) bs r
  propGather : ∀ {bss k v fm rs}, propGather n bss k v fm = .ok rs →
    ∀ r ∈ rs, ∃ bs ∈ bss, ∃ fk fv b,
      (fk, fv) ∈ fm ∧ Run (.one (.str k) (.str fk)) bs b ∧ Run (.one v fv) b r
  arrayOne : ∀ {bss pat mm todo a f}, (∀ e ∈ todo, e ∈ mm) →
    arrayOne n bss pat mm todo = .inr (a, f) → Brs (Step pat bss mm) a f
  arraycat : ∀ {P : List Bs → List (Nat × V) → Prop} {bsss pat fxas a f},
    Brs P bsss fxas → arraycat n bsss pat fxas = .inr (a, f) →
    Brs (fun acc mm' => ∃ bss mm, P bss mm ∧ Step pat bss mm acc mm') a f
  loopXs : ∀ {P : List Bs → List (Nat × V) → Prop} {xs fxs bsss fxas flag fxs' bsss' fxas'},
    Brs P bsss fxas → loopXs n xs fxs bsss fxas flag = .inr (fxs', bsss', fxas') →
    Brs (fun bss' mm' => ∃ bss mm, P bss mm ∧ LoopRes xs fxs fxs' bss mm bss' mm') bsss' fxas'

theorem runOf_succ {n : Nat} (ih : RunOf n) : RunOf (n+1) where
  matchF := by
    intro p f bs rs h r hr
    refine Run.fudge ?_
    rw [matchF_succ] at h
    split at h
    · next hq =>
      rw [hq]
      unfold matchNull at h
      split at h <;> cases h
      · next hf => rw [hf]; obtain rfl := List.mem_singleton.mp hr; exact Run.const rfl
      · cases hr
    · next a hq =>
      rw [hq]
      unfold matchBool at h
      split at h
      · next b hf =>
        split at h <;> cases h
        · next heq => rw [hf, ← heq]; obtain rfl := List.mem_singleton.mp hr; exact Run.const rfl
        · cases hr
      · cases h; cases hr
    · next a hq =>
      rw [hq]
      unfold matchNum at h
      split at h
      · next b hf =>
        split at h <;> cases h
        · next heq => rw [hf, ← heq]; obtain rfl := List.mem_singleton.mp hr; exact Run.const rfl
        · cases hr
      · cases h; cases hr
    · next s hq => rw [hq]; exact ih.matchStr h r hr
    · next pm hq => rw [hq]; exact ih.matchObj h r hr
    · next ps hq => rw [hq]; exact ih.matchArr h r hr
    · cases h
  matchStr := by
    intro s f bs rs h r hr
    rw [matchStr_succ] at h
    by_cases hc : (!isVar s) = true
    · rw [if_pos hc] at h
      split at h
      · next t =>
        split at h
        · next heq =>
          cases h
          obtain rfl := List.mem_singleton.mp hr
          subst heq
          exact Run.const hc
        · cases h; cases hr
      · cases h; cases hr
    · rw [if_neg hc] at h
      have hv : isVar s = true := by simpa using hc
      split at h
      · next ha =>
        cases h
        obtain rfl := List.mem_singleton.mp hr
        have : s = "?" := by simpa [isAnon] using ha
        subst this; exact Run.anon
      · next ha =>
        have ha : isAnon s = false := by simpa using ha
        split at h
        · next rs' hq => cases h; exact inequal_run hv hq r hr
        · next hq =>
          split at h
          · next b hl => exact ih.matchBound hv ha hq hl h r hr
          · next hl =>
            cases h
            obtain rfl := List.mem_singleton.mp hr
            exact Run.fresh hv ha hq hl
  matchBound := by
    intro s b f bs rs hv ha hq hl h r hr
    rw [matchBound_succ] at h
    split at h
    · next t =>
      by_cases ht : isVar t = true
      · rw [if_pos ht] at h
        split at h
        · next u =>
          split at h
          · next heq =>
            cases h
            obtain rfl := List.mem_singleton.mp hr
            subst heq
            exact Run.boundVar hv ha hq hl ht
          · cases h; cases hr
        · cases h; cases hr
      · rw [if_neg ht] at h
        exact Run.bound hv ha hq hl (fun t' e => by cases e; simpa using ht)
          (ih.matchF h r hr)
    · next hb =>
      exact Run.bound hv ha hq hl (fun t e => absurd e (hb t)) (ih.matchF h r hr)
  matchObj := by
    intro pm f bs rs h r hr
    rcases matchObj_other pm f bs with ⟨fm, rfl⟩ | hc
    · rcases matchObj_arms pm fm bs with
        ⟨rfl, hc⟩ | ⟨_, hc⟩ | ⟨k, v, rfl, hk, hc⟩ | ⟨hne, _, hc⟩ <;> rw [hc] at h
      · cases h
        obtain rfl := List.mem_singleton.mp hr
        exact Run.objEmpty
      · cases h
      · obtain ⟨b, hb, fk, fv, b₁, hm, h1, h2⟩ := ih.propGather h r hr
        obtain rfl := List.mem_singleton.mp hb
        exact Run.objProp hk hm h1 h2
      · obtain ⟨b, hb, hrun⟩ := ih.mapcat h r hr
        obtain rfl := List.mem_singleton.mp hb
        exact Run.obj hne hrun
    · rw [hc] at h; cases h; cases hr
  matchArr := by
    intro ps f bs rs h r hr
    rw [matchArr_succ] at h
    split at h
    · cases h
    · next v xs hgv =>
      split at h
      · next fa =>
        split at h
        · next r' hl =>
          subst h
          obtain rfl := loopXs_inl hl
          cases hr
        · next fxs' bsss fxas hl =>
          -- the results of the loop, as `Run`s from `bs` over `fa`
          have hloop : Brs (fun bss mm => ∀ b ∈ bss, ∃ L, Rem mm fxs' L ∧ Run (.arr xs fa L) bs b)
              bsss fxas := by
            refine (ih.loopXs (P := fun bss mm => bss = [bs] ∧ mm = indexStruct fa 0)
              (Brs.cons ⟨rfl, rfl⟩ Brs.nil) hl).imp ?_
            rintro bss mm ⟨_, _, ⟨rfl, rfl⟩, hres⟩ b hb
            obtain ⟨b0, hb0, hrun⟩ := hres.run b hb
            obtain rfl := List.mem_singleton.mp hb0
            exact hrun fa (Rem.init fa)
          have hflat : ∀ r ∈ bsss.flatten, ∃ L, Run (.arr xs fa L) bs r := by
            intro r hr
            obtain ⟨bss, h1, h2⟩ := List.mem_flatten.mp hr
            obtain ⟨mm, hmm⟩ := hloop.mem h1
            obtain ⟨L, _, hrun⟩ := hmm r h2
            exact ⟨L, hrun⟩
          split at h
          · cases h
            obtain ⟨L, hrun⟩ := hflat r hr
            exact Run.arrNone hgv hrun
          · next vn =>
            split at h
            · next r' hcat =>
              subst h
              exact absurd rfl (arraycat_inl _ _ _ _ _ hcat rs)
            · next bsss' fx' hcat =>
              split at h
              · next hc =>
                cases h
                simp only [Bool.and_eq_true] at hc
                obtain ⟨L, hrun⟩ := hflat r hr
                exact Run.arrSkip hgv hc.2 hrun
              · cases h
                obtain ⟨acc, h1, h2⟩ := List.mem_flatten.mp hr
                have hbrs := hloop.map_right (fun m => m ++ leftovers fxs' fa.length)
                  (Q := fun bss mm' => ∃ mm, mm' = mm ++ leftovers fxs' fa.length ∧
                    ∀ b ∈ bss, ∃ L, Rem mm fxs' L ∧ Run (.arr xs fa L) bs b)
                  fun _ mm h => ⟨mm, rfl, h⟩
                obtain ⟨mm', bss, _, ⟨mm, rfl, hbss⟩, j, fact, hjm, _, hacc⟩ :=
                  (ih.arraycat hbrs hcat).mem h1
                obtain ⟨b, hb, hrunv⟩ := hacc r h2
                obtain ⟨L, hL, hrun⟩ := hbss b hb
                obtain ⟨L', hp⟩ := hL.leftover hjm
                exact Run.arrVar hgv hrun hp hrunv
      · cases h; cases hr
  matchWith := by
    intro bss p f rs h r hr
    cases bss with
    | nil => rw [matchWith_nil] at h; cases h; cases hr
    | cons bs rest =>
      rw [matchWith_cons] at h
      split at h
      · next r1 h1 =>
        split at h
        · next r2 h2 =>
          cases h
          rcases List.mem_append.mp hr with hr | hr
          · exact ⟨bs, List.mem_cons_self, ih.matchF h1 r hr⟩
          · obtain ⟨b, hb, hx⟩ := ih.matchWith h2 r hr
            exact ⟨b, List.mem_cons_of_mem _ hb, hx⟩
        · next hne => exact (hne _ h).elim
      · next hne => exact (hne _ h).elim
  mapcat := by
    intro bss pm fm rs h r hr
    cases pm with
    | nil => rw [mapcat_nil] at h; cases h; exact ⟨r, hr, Run.kvsNil⟩
    | cons kv rest =>
      obtain ⟨k, v⟩ := kv
      rw [mapcat_cons] at h
      cases hk : isVar k with
      | true => rw [if_pos hk] at h; cases h
      | false =>
        rw [if_neg (by simp [hk])] at h
        split at h
        · next hl =>
          split at h
          · next ho =>
            obtain ⟨b, hb, hrun⟩ := ih.mapcat h r hr
            exact ⟨b, hb, Run.kvsAbsent hk hl ho hrun⟩
          · cases h; cases hr
        · next fv hl =>
          split at h
          · cases h; cases hr
          · next acc hne hacc =>
            obtain ⟨b₁, hb₁, hrun⟩ := ih.mapcat h r hr
            obtain ⟨b, hb, hrun₁⟩ := ih.matchWith hacc b₁ hb₁
            exact ⟨b, hb, Run.kvsPresent hk hl hrun₁ hrun⟩
          · next _ hne => exact (hne _ h).elim
  propGather := by
    intro bss k v fm rs h r hr
    cases fm with
    | nil => rw [propGather_nil] at h; cases h; cases hr
    | cons kv rest =>
      obtain ⟨fk, fv⟩ := kv
      rw [propGather_cons] at h
      split at h
      · next ext hext =>
        split at h
        · next ext2 hext2 =>
          split at h
          · next more hmore =>
            cases h
            rcases List.mem_append.mp hr with hr | hr
            · split at hext2
              · cases hext2; cases hr
              · obtain ⟨b₁, hb₁, hrun⟩ := ih.matchWith hext2 r hr
                obtain ⟨b, hb, hrun₁⟩ := ih.matchWith hext b₁ hb₁
                exact ⟨b, hb, fk, fv, b₁, List.mem_cons_self, hrun₁, hrun⟩
            · obtain ⟨b, hb, fk', fv', b₁, hm, h1, h2⟩ := ih.propGather hmore r hr
              exact ⟨b, hb, fk', fv', b₁, List.mem_cons_of_mem _ hm, h1, h2⟩
          · next hne => exact (hne _ h).elim
        · next hne => exact (hne _ h).elim
      · next hne => exact (hne _ h).elim
  arrayOne := by
    intro bss pat mm todo a f hsub h
    cases todo with
    | nil => cases h; exact Brs.nil
    | cons e todo =>
      obtain ⟨j, fact⟩ := e
      rw [arrayOne_cons] at h
      split at h
      · next acc hacc =>
        split at h
        · cases h
        · next a' f' hrec =>
          have hR := ih.arrayOne (fun e he => hsub e (List.mem_cons_of_mem _ he)) hrec
          split at h
          · cases h; exact hR
          · cases h
            exact Brs.cons
              ⟨j, fact, hsub _ List.mem_cons_self, rfl, ih.matchWith hacc⟩ hR
      · cases h
  arraycat := by
    intro P bsss pat fxas a f hbrs h
    cases hbrs with
    | nil => cases h; exact Brs.nil
    | @cons bss mm bsss fxas hp1 hrest =>
      rw [arraycat_cons] at h
      split at h
      · cases h
      · next a1 f1 h1 =>
        split at h
        · cases h
        · next a2 f2 h2 =>
          cases h
          have r1 := ih.arrayOne (fun e he => he) h1
          exact (r1.imp (fun acc mm' hs => ⟨bss, mm, hp1, hs⟩)).append
            (ih.arraycat hrest h2)
  loopXs := by
    intro P xs fxs bsss fxas flag fxs' bsss' fxas' hbrs h
    cases xs with
    | nil =>
      cases h
      exact hbrs.imp (fun bss mm hp => ⟨bss, mm, hp, fun _ h => h, fun _ h => h,
        fun r hr => ⟨r, hr, fun L hL => ⟨L, hL, Run.loopNil⟩⟩⟩)
    | cons x xs =>
      rw [loopXs_cons] at h
      split at h
      · next sc hsc =>
        split at h
        · next hc =>
          refine (ih.loopXs hbrs h).imp ?_
          rintro bss' mm' ⟨bss, mm, hp, hres⟩
          exact ⟨bss, mm, hp, hres.cons_scalar hsc (List.contains_iff_mem.mp hc)⟩
        · cases h
      · next hsc =>
        by_cases hf : flag = true
        · rw [if_pos hf] at h; cases h
        · rw [if_neg hf] at h
          split at h
          · cases h
          · next b1 f1 hcat =>
            split at h
            · cases h
            · refine (ih.loopXs (ih.arraycat hbrs hcat) h).imp ?_
              rintro bss' mm' ⟨acc, mm₁, ⟨bss, mm, hp, hs⟩, hres⟩
              exact ⟨bss, mm, hp, hres.cons_struct hsc hs⟩

theorem runOf_all : ∀ n, RunOf n
  | 0 => by constructor <;> intros <;> contradiction
  | n+1 => runOf_succ (runOf_all n)

theorem matchF_run {n p f bs rs} (h : matchF n p f bs = .ok rs) : ∀ r ∈ rs, Run (.one p f) bs r :=
  (runOf_all n).matchF h

theorem matchWith_run {n bss p f rs} (h : matchWith n bss p f = .ok rs) :
    ∀ r ∈ rs, ∃ bs ∈ bss, Run (.one p f) bs r :=
  (runOf_all n).matchWith h

theorem arrayOne_run {n bss pat mm a f} (h : arrayOne n bss pat mm mm = .inr (a, f)) :
    Brs (Step pat bss mm) a f :=
  (runOf_all n).arrayOne (fun _ h => h) h

theorem arraycat_run {n P bsss pat fxas a f} (hb : Brs P bsss fxas)
    (h : arraycat n bsss pat fxas = .inr (a, f)) :
    Brs (fun acc mm' => ∃ bss mm, P bss mm ∧ Step pat bss mm acc mm') a f :=
  (runOf_all n).arraycat hb h

theorem loopXs_run {n P xs fxs fxs' bsss bsss' fxas fxas' flag} (hb : Brs P bsss fxas)
    (h : loopXs n xs fxs bsss fxas flag = .inr (fxs', bsss', fxas')) :
    Brs (fun bss' mm' => ∃ bss mm, P bss mm ∧ LoopRes xs fxs fxs' bss mm bss' mm') bsss' fxas' :=
  (runOf_all n).loopXs hb h
