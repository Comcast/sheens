import Sheens.Proofs.EngineLemmas
import Sheens.Proofs.RunRel

/-!
# Permanent bindings survive `execWrap`, the matcher, guards and what follows the action (`stepRest`)

Bindings are association lists with first-hit `lookup`, while `restore` writes the permanent pairs
back one after the other (last write wins).  On lists with duplicate keys the two disagree, which
cannot happen in Go (maps have no duplicate keys): `NoDupKeys` says the keys are pairwise distinct.
-/

/-- the keys of an association list are pairwise distinct (always so for a Go map) -/
def NoDupKeys (bs : Bs) : Prop := List.Pairwise (fun a b => a.1 ≠ b.1) bs

theorem lookup_eq_none_iff {k : String} {bs : Bs} : lookup k bs = none ↔ ∀ kv ∈ bs, kv.1 ≠ k := by
  induction bs with
  | nil => exact ⟨fun _ => nofun, fun _ => rfl⟩
  | cons kv rest ih =>
    rw [List.forall_mem_cons, ← ih, lookup]
    split
    · next h => exact ⟨nofun, fun h' => absurd h.symm h'.1⟩
    · next h => exact ⟨fun h' => ⟨Ne.symm h, h'⟩, fun h' => h'.2⟩

theorem lookup_none_of_forall {k : String} {bs : Bs} (h : ∀ kv ∈ bs, kv.1 ≠ k) :
    lookup k bs = none := lookup_eq_none_iff.mpr h

theorem lookup_of_mem_nodup {k : String} {v : V} {bs : Bs} (hnd : NoDupKeys bs) (h : (k, v) ∈ bs) :
    lookup k bs = some v := by
  induction bs with
  | nil => cases h
  | cons kv rest ih =>
    obtain ⟨k', v'⟩ := kv
    obtain ⟨h1, h2⟩ := List.pairwise_cons.mp hnd
    simp only [lookup]
    rcases List.mem_cons.mp h with h | h
    · cases h; simp
    · split
      · next heq => exact absurd heq.symm (h1 (k, v) h)
      · exact ih h2 h

theorem nodup_cons_fresh {s : String} {v : V} {bs : Bs} (h : lookup s bs = none)
    (hnd : NoDupKeys bs) : NoDupKeys ((s, v) :: bs) :=
  List.pairwise_cons.mpr ⟨fun x hx heq => lookup_eq_none_iff.mp h x hx heq.symm, hnd⟩

theorem mem_insertB {k : String} {v : V} {bs : Bs} {x : String × V} (h : x ∈ insertB k v bs) :
    x = (k, v) ∨ x ∈ bs := by
  induction bs with
  | nil => exact .inl (List.mem_singleton.mp h)
  | cons kv rest ih =>
    rw [insertB] at h
    split at h
    · exact (List.mem_cons.mp h).imp id (List.mem_cons_of_mem _)
    · rcases List.mem_cons.mp h with rfl | h
      · exact .inr List.mem_cons_self
      · exact (ih h).imp id (List.mem_cons_of_mem _)

theorem nodup_insertB {k : String} {v : V} {bs : Bs} (hnd : NoDupKeys bs) :
    NoDupKeys (insertB k v bs) := by
  induction bs with
  | nil => exact List.pairwise_singleton _ _
  | cons kv rest ih =>
    obtain ⟨k', v'⟩ := kv
    obtain ⟨h1, h2⟩ := List.pairwise_cons.mp hnd
    simp only [insertB]
    split
    · next heq =>
      subst heq
      exact List.pairwise_cons.mpr ⟨h1, h2⟩
    · next hne =>
      refine List.pairwise_cons.mpr ⟨?_, ih h2⟩
      intro x hx
      rcases mem_insertB hx with hx | hx
      · subst hx; exact fun heq => hne heq.symm
      · exact h1 x hx

theorem restore_cons (kv : String × V) (perm b : Bs) :
    restore (kv :: perm) b = restore perm (insertB kv.1 kv.2 b) := rfl

theorem nodup_restore {perm b : Bs} (hnd : NoDupKeys b) : NoDupKeys (restore perm b) :=
  List.foldlRecOn perm _ hnd fun _ h _ _ => nodup_insertB h

theorem lookup_restore {k : String} {perm : Bs} (b : Bs) (hnd : NoDupKeys perm) :
    lookup k (restore perm b) = (lookup k perm).or (lookup k b) := by
  induction perm generalizing b with
  | nil => rfl
  | cons kv rest ih =>
    obtain ⟨h1, h2⟩ := List.pairwise_cons.mp hnd
    rw [restore_cons, ih _ h2, lookup_insertB, lookup]
    split
    · next h => rw [lookup_none_of_forall fun x hx e => h1 x hx (h ▸ e.symm)]; rfl
    · rfl

theorem lookup_restore_permanent {k : String} {v : V} {bs b : Bs} (hnd : NoDupKeys bs)
    (hk : isPermanent k = true) (hv : lookup k bs = some v) :
    lookup k (restore (permanentOf bs) b) = some v := by
  have hp : NoDupKeys (permanentOf bs) := List.Pairwise.filter _ hnd
  rw [lookup_restore b hp,
    lookup_of_mem_nodup hp (List.mem_filter.mpr ⟨mem_of_lookup hv, hk⟩)]
  rfl

def Keeps (k : String) (v : V) (c : Bs) : Prop := NoDupKeys c ∧ lookup k c = some v

theorem execWrap_keeps {g : ActionF} {c b : Bs} {em : List V} {k : String} {v : V}
    (hk : isPermanent k = true) (hc : Keeps k v c)
    (hx : (execWrap g (some c)).exe = some (some b, em)) : lookup k b = some v := by
  unfold execWrap at hx
  simp only [copyB] at hx
  split at hx
  · cases hx
  · cases hx
  · cases hx
    exact lookup_restore_permanent hc.1 hk hc.2

/-- a duplicate-free result of the raw action stays duplicate-free through `execWrap` -/
theorem execWrap_nodup {a : ActionF} {bs : Option Bs} {b0 : Bs} {em0 : List V}
    (h0 : (a bs).exe = some (some b0, em0)) (hnd : NoDupKeys b0) :
    ∃ b, (execWrap a bs).exe = some (some b, em0) ∧ NoDupKeys b := by
  unfold execWrap
  simp only [h0]
  exact ⟨_, rfl, nodup_restore hnd⟩

theorem matchF_nodup {n : Nat} {p f : V} {bs r : Bs} {rs : List Bs}
    (h : matchF n p f bs = .ok rs) (hr : r ∈ rs) (hnd : NoDupKeys bs) : NoDupKeys r :=
  matchF_rel (R := fun bs r => NoDupKeys bs → NoDupKeys r) factPred_true
    ⟨fun _ h => h, fun h1 h2 h => h2 (h1 h), fun _ hl hnd => nodup_cons_fresh hl hnd⟩ trivial h r hr hnd

theorem consider_keeps {b : Option Branches} {c : Bs} {pending : Option V} {t : State}
    {k : String} {v : V} (hk : isPermanent k = true) (hc : Keeps k v c)
    (h : (consider b (some c) pending).1 = some t) :
    ∃ tb, t.bs = some tb ∧ lookup k tb = some v := by
  obtain ⟨_, x, against, cand, tb, _, _, _, h1, h2, rfl⟩ := consider_some h
  refine ⟨tb, rfl, ?_⟩
  have hcand : ∃ c', cand = some c' ∧ Keeps k v c' := by
    cases h1 with
    | asis => exact ⟨c, rfl, hc⟩
    | matched _ hm hr => exact ⟨_, rfl, matchF_nodup hm hr hc.1, matchF_extends hm hr k v hc.2⟩
  obtain ⟨c', rfl, hc'⟩ := hcand
  cases h2 with
  | unguarded => exact hc'.2
  | guarded _ hx => exact execWrap_keeps hk hc' hx

theorem lookup_insertB_perm {k k' : String} (hk : isPermanent k = true)
    (hk' : isPermanent k' = false) (v : V) (bs : Bs) :
    lookup k (insertB k' v bs) = lookup k bs :=
  lookup_insertB_ne v bs fun h => Bool.false_ne_true (hk' ▸ h ▸ hk)

theorem lookup_actErrBs {k : String} (hk : isPermanent k = true) (e : String) (bs : Option Bs) :
    lookup k (actErrBs e bs) = lookup k (copyB bs) := by
  unfold actErrBs
  rw [lookup_insertB_perm hk (by decide +kernel), lookup_insertB_perm hk (by decide +kernel)]

theorem lookup_noBranchBs {k : String} (hk : isPermanent k = true) (st : State) (bs : Option Bs) :
    lookup k (noBranchBs st bs) = lookup k (copyB bs) := by
  unfold noBranchBs
  rw [lookup_insertB_perm hk (by decide +kernel), lookup_insertB_perm hk (by decide +kernel),
    lookup_insertB_perm hk (by decide +kernel)]

theorem keeps_actErrBs {k : String} {v : V} {bs : Bs} (hk : isPermanent k = true)
    (hc : Keeps k v bs) (e : String) : Keeps k v (actErrBs e (some bs)) :=
  ⟨nodup_insertB (nodup_insertB hc.1), by rw [lookup_actErrBs hk]; exact hc.2⟩

theorem stepRest_keeps {st : State} {n : Node} {c : Bs} {em : List V}
    {pending : Option V} {sd : Stride} {t : State} {k : String} {v : V}
    (hk : isPermanent k = true) (hc : Keeps k v c)
    (hs : (stepRest st n (some c) em pending).stride = some sd) (ht : sd.to = some t) :
    ∃ tb, t.bs = some tb ∧ lookup k tb = some v := by
  rcases stepRest_to hs ht with ⟨t', hcons, rfl⟩ | rfl
  · obtain ⟨tb, h1, h2⟩ := consider_keeps hk hc hcons
    exact ⟨tb, by simp only [stateCopy, h1, copyB], h2⟩
  · exact ⟨_, rfl, (lookup_noBranchBs hk st _).trans hc.2⟩
