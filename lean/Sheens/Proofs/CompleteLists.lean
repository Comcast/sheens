import Sheens.Proofs.CompleteBasic

/-!
# Completeness (C02), part 2: the list-traversing functions try every candidate

`Finds g P`: every `ok` answer of `g` holds a result with `P`.  If the matcher finds such a result
for a chosen candidate, so do `matchWith / arrayOne / arraycat / propGather`, which try every
candidate (`*_finds`); the two indexes of a set-like array are a permutation of it.
-/

namespace Sheens.Complete

def Finds (g : Nat → MRes) (P : Bs → Prop) : Prop := ∀ n rs, g n = .ok rs → ∃ r ∈ rs, P r

theorem Finds.imp {g : Nat → MRes} {P P' : Bs → Prop} (h : Finds g P) (hP : ∀ r, P r → P' r) :
    Finds g P' := fun n rs hg =>
  let ⟨r, hr, hp⟩ := h n rs hg
  ⟨r, hr, hP r hp⟩

section
variable {bss : List Bs} {b : Bs} {P : Bs → Prop} {pat fact : V} {mm : List (Nat × V)} {j : Nat}

theorem with_finds {p f : V} (hb : b ∈ bss) (h : Finds (matchF · p f b) P) :
    Finds (matchWith · bss p f) P := by
  intro n acc (hW : matchWith n bss p f = .ok acc)
  induction bss generalizing n acc with
  | nil => cases hb
  | cons bs rest ih =>
    cases n with
    | zero => cases hW
    | succ n =>
      rw [matchWith_cons] at hW
      split at hW
      · next r1 h1 =>
        split at hW
        · next r2 h2 =>
          cases hW
          rcases List.mem_cons.mp hb with rfl | hb
          · obtain ⟨r, hr, hP⟩ := h n r1 h1
            exact ⟨r, List.mem_append_left _ hr, hP⟩
          · obtain ⟨r, hr, hP⟩ := ih hb n r2 h2
            exact ⟨r, List.mem_append_right _ hr, hP⟩
        · next hne => exact (hne _ hW).elim
      · next hne => exact (hne _ hW).elim

/-- `arrayOne` makes a branch for the fact `(j, fact)` if the pattern matches it in some `b ∈ bss` -/
theorem one_finds (hb : b ∈ bss) (h : Finds (matchF · pat fact b) P) :
    ∀ {todo : List (Nat × V)} {n : Nat} {a f}, arrayOne n bss pat mm todo = .inr (a, f) →
    (j, fact) ∈ todo → ∃ acc, (acc, mm.filter (fun e => e.1 != j)) ∈ a.zip f ∧ ∃ r ∈ acc, P r := by
  intro todo
  induction todo with
  | nil => intro n a f _ hm; cases hm
  | cons jf todo ih =>
    intro n a f hO hm
    obtain ⟨j', fact'⟩ := jf
    cases n with
    | zero => simp at hO
    | succ n =>
      rw [arrayOne_cons] at hO
      split at hO
      · next acc hW =>
        split at hO
        · cases hO
        · next a' f' hO' =>
          rcases List.mem_cons.mp hm with heq | hm
          · cases heq
            obtain ⟨r, hr, hP⟩ := with_finds hb h n acc hW
            rw [if_neg fun he => List.ne_nil_of_mem hr (List.isEmpty_iff.mp he)] at hO
            cases hO
            exact ⟨acc, List.mem_cons_self, r, hr, hP⟩
          · obtain ⟨acc', h1, h2⟩ := ih hO' hm
            split at hO <;> cases hO
            · exact ⟨acc', h1, h2⟩
            · exact ⟨acc', List.mem_cons_of_mem _ h1, h2⟩
      · cases hO

/-- `arraycat` makes a branch out of the branch `(bss, mm)` for the fact `(j, fact)` if the pattern
    matches it in some `b ∈ bss` -/
theorem cat_finds (hj : (j, fact) ∈ mm) (hb : b ∈ bss) (h : Finds (matchF · pat fact b) P) :
    ∀ {bsss : List (List Bs)} {fxas : List (List (Nat × V))}, (bss, mm) ∈ bsss.zip fxas →
    ∀ {n : Nat} {a f}, arraycat n bsss pat fxas = .inr (a, f) →
    ∃ acc, (acc, mm.filter (fun e => e.1 != j)) ∈ a.zip f ∧ ∃ r ∈ acc, P r := by
  intro bsss
  induction bsss with
  | nil => intro _ hm; cases hm
  | cons bss₀ bsss ih =>
    intro fxas hm n a f hC
    cases fxas with
    | nil => cases hm
    | cons mm₀ fxas =>
      cases n with
      | zero => cases hC
      | succ n =>
        rw [arraycat_cons] at hC
        split at hC
        · cases hC
        · next a1 f1 h1 =>
          split at hC
          · cases hC
          · next a2 f2 h2 =>
            cases hC
            rw [List.zip_append (Brs.length_eq (arrayOne_run h1))]
            rcases List.mem_cons.mp hm with heq | hm
            · cases heq
              obtain ⟨acc, hmem, hr⟩ := one_finds hb h h1 hj
              exact ⟨acc, List.mem_append_left _ hmem, hr⟩
            · obtain ⟨acc, hmem, hr⟩ := ih hm h2
              exact ⟨acc, List.mem_append_right _ hmem, hr⟩

/-- no facts on offer in any branch ⇒ no new branch -/
theorem cat_empty {bsss : List (List Bs)} {fxas : List (List (Nat × V))} {n : Nat} {a f}
    (hb : Brs (fun _ mm => mm = []) bsss fxas) (h : arraycat n bsss pat fxas = .inr (a, f)) :
    a = [] := by
  cases arraycat_run hb h with
  | nil => rfl
  | cons hp _ =>
    obtain ⟨bss, mm, rfl, j, fact, hm, _⟩ := hp
    cases hm

/-- `propGather` tries the key `fk`: the key variable against it, then the value -/
theorem gather_finds {k : String} {v : V} {fk : String} {fv : V}
    {P₁ P : Bs → Prop} (hb : b ∈ bss) (h1 : Finds (matchF · (.str k) (.str fk) b) P₁)
    (h2 : ∀ b₁, P₁ b₁ → Finds (matchF · v fv b₁) P) :
    ∀ {fm : List (String × V)}, (fk, fv) ∈ fm → Finds (propGather · bss k v fm) P := by
  intro fm
  induction fm with
  | nil => intro hm; cases hm
  | cons kv rest ih =>
    intro hm n rs hG
    obtain ⟨fk', fv'⟩ := kv
    cases n with
    | zero => simp at hG
    | succ n =>
      simp only [propGather_cons] at hG
      split at hG
      · next ext hext =>
        split at hG
        · next ext2 hext2 =>
          split at hG
          · next more hmore =>
            cases hG
            rcases List.mem_cons.mp hm with heq | hm
            · cases heq
              obtain ⟨b₁, hb₁, hP₁⟩ := with_finds hb h1 n ext hext
              rw [if_neg fun he => List.ne_nil_of_mem hb₁ (List.isEmpty_iff.mp he)] at hext2
              obtain ⟨r, hr, hP⟩ := with_finds hb₁ (h2 b₁ hP₁) n ext2 hext2
              exact ⟨r, List.mem_append_left _ hr, hP⟩
            · obtain ⟨r, hr, hP⟩ := ih hm n more hmore
              exact ⟨r, List.mem_append_right _ hr, hP⟩
          · next hne => exact (hne _ hG).elim
        · next hne => exact (hne _ hG).elim
      · next hne => exact (hne _ hG).elim

end

theorem toV_scalar (sc : Scalar) : sc.toV.scalar? = some sc := by
  cases sc <;> rfl

theorem toV_inj {a b : Scalar} (h : a.toV = b.toV) : a = b := by
  have := congrArg V.scalar? h
  rw [toV_scalar, toV_scalar] at this
  exact Option.some.inj this

theorem indexStruct_struct {fa : List V} : ∀ {i : Nat} {e : Nat × V}, e ∈ indexStruct fa i →
    e.2.scalar? = none := by
  induction fa with
  | nil => intro i e h; simp [indexStruct] at h
  | cons x fa ih =>
    intro i e h
    simp only [indexStruct] at h
    split at h
    · exact ih h
    · next hx =>
      rcases List.mem_cons.mp h with rfl | h
      · exact hx
      · exact ih h

theorem index_perm (fa : List V) : ∀ (acc : List Scalar) (i : Nat),
    scalarsNodup fa = true → (∀ x ∈ fa, ∀ sc, x.scalar? = some sc → sc ∉ acc) →
    ((indexStruct fa i).map (·.2) ++ (indexScalars fa acc).map Scalar.toV).Perm
      (fa ++ acc.reverse.map Scalar.toV) := by
  induction fa with
  | nil => intro acc i _ _; simp [indexStruct, indexScalars]
  | cons x fa ih =>
    intro acc i hn hacc
    replace hn := (Bool.and_eq_true _ _).mp hn
    cases hsc : x.scalar? with
    | some sc =>
      simp only [hsc, Bool.not_eq_true', List.any_eq_false, beq_iff_eq] at hn
      have hnot : acc.contains sc = false := Bool.eq_false_iff.mpr fun hc =>
        hacc x List.mem_cons_self sc hsc (List.contains_iff_mem.mp hc)
      have hfresh : ∀ y ∈ fa, ∀ s', y.scalar? = some s' → s' ∉ sc :: acc := by
        intro y hy s' hs' hmem
        rcases List.mem_cons.mp hmem with rfl | hmem
        · exact hn.1 y hy hs'
        · exact hacc y (List.mem_cons_of_mem _ hy) s' hs' hmem
      simp only [indexStruct, indexScalars, hsc, hnot]
      refine (ih (sc :: acc) (i+1) hn.2 hfresh).trans ?_
      rw [scalar_toV hsc, List.reverse_cons, List.map_append, ← List.append_assoc]
      exact List.perm_append_comm
    | none =>
      simp only [indexStruct, indexScalars, hsc]
      exact (ih acc (i+1) hn.2 fun y hy => hacc y (List.mem_cons_of_mem _ hy)).cons x

theorem index_perm0 {fa : List V} (hn : scalarsNodup fa = true) :
    fa.Perm (remOf (indexStruct fa 0) (indexScalars fa [])) := by
  have := index_perm fa [] 0 hn (fun _ _ _ _ h => nomatch h)
  simpa [remOf] using this.symm

end Sheens.Complete
