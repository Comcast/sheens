import Sheens.Specter

/-!
# Lemmas on the atomic-register history model (`Sheens/Specter.lean`)
-/

namespace Specter

/-- what one event does to the register -/
def reg (v0 : Nat) : Ev → Nat
  | .write v => v
  | _ => v0

theorem current_cons (v0 : Nat) (e : Ev) (rest : List Ev) :
    current v0 (e :: rest) = current (reg v0 e) rest := by
  cases e <;> rfl

theorem loaded_cons (v0 c : Nat) (e : Ev) (rest : List Ev) :
    loaded v0 c (e :: rest) = if e = .load c then some v0 else loaded (reg v0 e) c rest := by
  cases e <;> simp [loaded, reg]

theorem currentDuring_cons_outside {v0 c : Nat} {e : Ev} (rest : List Ev)
    (h : e ≠ .begin_ c ∧ e ≠ .end_ c) :
    currentDuring v0 c (e :: rest) false = currentDuring (reg v0 e) c rest false := by
  cases e with
  | begin_ c' => simp [currentDuring, reg, show c' ≠ c from fun e => h.1 (e ▸ rfl)]
  | end_ c' => simp [currentDuring, reg, show c' ≠ c from fun e => h.2 (e ▸ rfl)]
  | _ => simp [currentDuring, reg]

variable {c v0 : Nat} {a b d rest : List Ev}

/-- events that are not `load c` do not decide what call `c` loads: they only move the register -/
theorem loaded_append (h : ∀ e ∈ a, e ≠ .load c) :
    loaded v0 c (a ++ rest) = loaded (current v0 a) c rest := by
  induction a generalizing v0 with
  | nil => rfl
  | cons e a ih =>
    rw [List.cons_append, loaded_cons, if_neg (h e List.mem_cons_self), current_cons]
    exact ih fun x hx => h x (List.mem_cons_of_mem _ hx)

/-- without writes the register keeps its value -/
theorem current_no_write (h : ∀ e ∈ b, ∀ v, e ≠ .write v) : current v0 b = v0 := by
  induction b with
  | nil => rfl
  | cons e b ih =>
    have : reg v0 e = v0 := by
      cases e <;> first | rfl | exact absurd rfl (h _ List.mem_cons_self _)
    rw [current_cons, this]
    exact ih fun x hx => h x (List.mem_cons_of_mem _ hx)

/-- before the call starts nothing is recorded; the register is tracked -/
theorem currentDuring_append_outside (h : ∀ e ∈ a, e ≠ .begin_ c ∧ e ≠ .end_ c) :
    currentDuring v0 c (a ++ rest) false = currentDuring (current v0 a) c rest false := by
  induction a generalizing v0 with
  | nil => rfl
  | cons e a ih =>
    rw [List.cons_append, currentDuring_cons_outside _ (h e List.mem_cons_self), current_cons]
    exact ih fun x hx => h x (List.mem_cons_of_mem _ hx)

/-- inside the call every write is recorded: the register's value after `b` is the value at the
    start or one of the recorded ones -/
theorem current_mem_inside (h : ∀ e ∈ b, e ≠ .end_ c) :
    current v0 b ∈ v0 :: currentDuring v0 c (b ++ rest) true := by
  induction b generalizing v0 with
  | nil => exact List.mem_cons_self
  | cons e b ih =>
    have h' : ∀ e ∈ b, e ≠ .end_ c := fun x hx => h x (List.mem_cons_of_mem _ hx)
    cases e with
    | write w =>
      simp only [List.cons_append, currentDuring, current, if_true]
      exact List.mem_cons_of_mem _ (ih h')
    | begin_ c' =>
      simp only [List.cons_append, currentDuring, current]
      split
      · exact List.mem_cons_of_mem _ (ih h')
      · exact ih h'
    | end_ c' =>
      have hne : c' ≠ c := fun hc => h (.end_ c') (List.mem_cons_self) (by rw [hc])
      simp only [List.cons_append, currentDuring, current, if_neg hne]; exact ih h'
    | load c' => simp only [List.cons_append, currentDuring, current]; exact ih h'

/-- the shape of a well-formed call, nested to the right -/
theorem call_shape (c : Nat) (a b d : List Ev) :
    a ++ [.begin_ c] ++ b ++ [.load c] ++ d = a ++ (.begin_ c :: (b ++ (.load c :: d))) := by
  simp only [List.append_assoc, List.cons_append, List.nil_append]

/-- what a well-formed call loads, and what is recorded for it -/
theorem loaded_decomp (ha : ∀ e ∈ a, e ≠ .load c) (hb : ∀ e ∈ b, e ≠ .load c) :
    loaded v0 c (a ++ [.begin_ c] ++ b ++ [.load c] ++ d) = some (current (current v0 a) b) := by
  rw [call_shape, loaded_append ha]
  simp only [loaded]
  rw [loaded_append hb]
  simp only [loaded, if_true]

theorem currentDuring_decomp (ha : ∀ e ∈ a, e ≠ .begin_ c ∧ e ≠ .end_ c) :
    currentDuring v0 c (a ++ [.begin_ c] ++ b ++ [.load c] ++ d) false =
      current v0 a :: currentDuring (current v0 a) c (b ++ (.load c :: d)) true := by
  rw [call_shape, currentDuring_append_outside ha]
  simp only [currentDuring, if_true]

end Specter
