import Sheens.Tools
import Sheens.Proofs.SioLemmas

/-!
# Helper lemmas for C20 (`Tools.analyze`, `Tools.render`)

`render`'s loop is two independent folds: the declarations are the names every node brings
(`namesOf`), added to a duplicate-free list in `start`-first order, the edges are a `filterMap`.
-/

namespace Tools

/-! ## `dedupS` is the crew's `Sio.dedup` -/

theorem dedupS_eq (l : List String) : dedupS l = Sio.dedup l := by
  induction l with
  | nil => rfl
  | cons x xs ih => simp only [dedupS, Sio.dedup, ih]

theorem mem_dedupS (l : List String) (x : String) : x ∈ dedupS l ↔ x ∈ l :=
  dedupS_eq l ▸ Sio.mem_dedup

theorem dedupS_nodup (l : List String) : (dedupS l).Nodup :=
  dedupS_eq l ▸ Sio.dedup_nodup l

theorem hasNode_eq_true (s : TSpec) (n : String) : hasNode s n = true ↔ n ∈ s.map (·.1) := by
  simp only [hasNode, List.any_eq_true, beq_iff_eq, List.mem_map]

theorem mem_allBranches (s : TSpec) (b : TBranch) :
    b ∈ allBranches s ↔ ∃ p ∈ s, b ∈ branchesOf p.2 := by
  simp only [allBranches, List.mem_flatMap]

/-! ## the `start`-first order -/

def order (s : TSpec) : TSpec :=
  (s.filter (fun p => p.1 == "start")) ++ (s.filter (fun p => p.1 != "start"))

theorem order_perm (s : TSpec) : (order s).Perm s :=
  List.filter_append_perm (fun p : String × TNode => p.1 == "start") s

/-! ## `render` as a fold -/

def addS (sn : List String) (x : String) : List String :=
  if sn.contains x then sn else sn ++ [x]

theorem mem_addS (sn : List String) (x y : String) : y ∈ addS sn x ↔ y ∈ sn ∨ y = x := by
  unfold addS
  split
  · next h => exact ⟨.inl, fun h' => h'.elim id fun e => e ▸ by simpa using h⟩
  · simp

theorem nodup_addS {sn : List String} (x : String) (h : sn.Nodup) : (addS sn x).Nodup := by
  unfold addS
  split
  · exact h
  · next hc =>
    exact (List.perm_append_singleton x sn).nodup_iff.mpr (List.nodup_cons.mpr ⟨by simpa using hc, h⟩)

theorem mem_foldl_addS (xs sn : List String) (y : String) : y ∈ xs.foldl addS sn ↔ y ∈ sn ∨ y ∈ xs := by
  induction xs generalizing sn with
  | nil => simp
  | cons x xs ih => rw [List.foldl_cons, ih, mem_addS, List.mem_cons, or_assoc]

theorem nodup_foldl_addS (xs : List String) {sn : List String} (h : sn.Nodup) : (xs.foldl addS sn).Nodup :=
  List.foldlRecOn (motive := List.Nodup) xs _ h fun _ hsn x _ => nodup_addS x hsn

abbrev Acc := List String × List (String × List String)

def visit (acc : Acc) (p : String × TNode) : Acc :=
  let seen := addS acc.1 p.1
  match p.2.branches with
  | none => (seen, acc.2)
  | some bs => (bs.foldl (fun sn b => addS sn b.target) seen, acc.2 ++ [(p.1, bs.map (·.target))])

/-- the declarations a node brings: its own name, then its branch targets -/
def namesOf (p : String × TNode) : List String := p.1 :: (branchesOf p.2).map (·.target)

def edgeOf (p : String × TNode) : Option (String × List String) :=
  p.2.branches.map (fun bs => (p.1, bs.map (·.target)))

theorem visit_eq (acc : Acc) (p : String × TNode) :
    visit acc p = ((namesOf p).foldl addS acc.1, acc.2 ++ (edgeOf p).toList) := by
  unfold visit namesOf edgeOf branchesOf
  cases p.2.branches <;> simp [List.foldl_map]

theorem foldl_visit (l : TSpec) (acc : Acc) :
    l.foldl visit acc = ((l.flatMap namesOf).foldl addS acc.1, acc.2 ++ l.filterMap edgeOf) := by
  induction l generalizing acc with
  | nil => simp
  | cons p ps ih =>
    rw [List.foldl_cons, ih, visit_eq, List.flatMap_cons, List.foldl_append, List.filterMap_cons]
    cases edgeOf p <;> simp

theorem render_eq (s : TSpec) :
    render s = { nodes := ((order s).flatMap namesOf).foldl addS [],
                 edges := (order s).filterMap edgeOf } := by
  show Rendering.mk ((order s).foldl visit ([], [])).1 ((order s).foldl visit ([], [])).2 = _
  rw [foldl_visit, List.nil_append]

end Tools
