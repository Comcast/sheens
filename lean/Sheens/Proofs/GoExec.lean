import Sheens.GoSem

/-!
# Running the interpreter of `GoSem.lean` symbolically

The proofs about translated Go functions execute them with `simp`: the equations of the
interpreter are the simp set (given once, below, to every file that opens `Go`); a callee is
rewritten by its own theorem, whose fuel `n + c` matches any fuel `j + c'` with `c ≤ c'` (or, where
the bound is not a numeral, by a form "`K ≤ k → callFn k … = …`"); and `callFn` itself is kept out of
the set, so that only the function under study is entered, by `callFn_run`.

`simp` stops where it meets a value it does not know (see "the equations of the interpreter").  So a
proof runs a function up to the first such value, splits on it, and goes on from there: what several
cases share is run once.  `simp` walks through every subterm of its goal at every call, the program text
included, so what is not to be looked at yet is kept out of its way: the rest of a long body behind a
definition (`hb` of `callFn_run`), unfolded where it runs; the arms of a type switch behind `armOf`,
evaluated where the arm is known; a `range` loop it leaves as it is (`loopR` is not in the set), for a
lemma about that loop, by the loop rule.
-/

namespace Go

attribute [scoped simp] bindParams execS execOpt evalE evalOpt assignAll assignTo
  envLeave parseTy truthy goEq keyEq pickCase anyCase toF64 goLen indexV sliceElems

-- (`id rfl`: a theorem proved by plain `rfl` `simp` applies without recording it, and the kernel, left with the
-- terms before and after, goes looking for the conversion — here by comparing strings)
@[scoped simp] theorem envGet_nil (x : String) : envGet x [] = none := rfl
@[scoped simp] theorem envGet_cons (x y : String) (v : GV) (rest : Env) :
    envGet x ((y, v) :: rest) = if x = y then some v else envGet x rest := id rfl
@[scoped simp] theorem envSet_nil (x : String) (v : GV) : envSet x v [] = none := rfl
@[scoped simp] theorem envSet_cons (x y : String) (v w : GV) (rest : Env) :
    envSet x v ((y, w) :: rest) = if x = y then some ((y, v) :: rest) else (envSet x v rest).map ((y, w) :: ·) :=
  id rfl

/-! ## names

`builtin`, `binop`, `zeroOf` and the operator cases of `evalE` are matches on string literals, and
unfolding one compares the name at hand with every literal before the right one — by evaluation of
`String.decEq`, which is slow.  So `builtin`, `binop` and `zeroOf` are not in the simp set; their equations
for the names and operand types that the translated code uses are (and, for the operators of `evalE`,
come before its own equations: `↓`).  (They are restated, not named as `builtin.eq_4`, so that
a proof term says which; `rw` finds the equation without comparing names.) -/

@[scoped simp ↓] theorem builtin_len (x : GV) (h : Heap) :
    builtin "len" [x] h = some ((goLen h x).map (fun v => ([v], h))) := by rw [builtin]
@[scoped simp ↓] theorem builtin_hasPrefix (s p : String) (h : Heap) :
    builtin "strings.HasPrefix" [.str s, .str p] h = some (.ok ([.bool (p.toList.isPrefixOf s.toList)], h)) := by
  rw [builtin]
@[scoped simp ↓] theorem builtin_hasSuffix (s p : String) (h : Heap) :
    builtin "strings.HasSuffix" [.str s, .str p] h =
      some (.ok ([.bool (p.toList.reverse.isPrefixOf s.toList.reverse)], h)) := by
  rw [builtin]
@[scoped simp ↓] theorem builtin_errorsNew (s : String) (h : Heap) :
    builtin "errors.New" [.str s] h = some (.ok ([.err s], h)) := by rw [builtin]
@[scoped simp ↓] theorem builtin_float64 (x : GV) (h : Heap) :
    builtin "conv:float64" [x] h = some ((toF64 x).map (fun v => ([v], h))) := by rw [builtin]
@[scoped simp ↓] theorem builtin_append (x : GV) (ys : List GV) (h : Heap) :
    builtin "append" (x :: ys) h =
      match sliceElems x with
      | some xs => some (.ok ([if xs.isEmpty && ys.isEmpty then x else .slice (xs ++ ys)], h))
      | none => some (.error (.stuck "append")) := by rw [builtin]; rfl
@[scoped simp ↓] theorem builtin_appendAll (x y : GV) (h : Heap) :
    builtin "append..." [x, y] h =
      match sliceElems x, sliceElems y with
      | some xs, some ys => some (.ok ([if xs.isEmpty && ys.isEmpty then x else .slice (xs ++ ys)], h))
      | _, _ => some (.error (.stuck "append...")) := by rw [builtin]; rfl
@[scoped simp ↓] theorem builtin_makemap (ty : String) (h : Heap) :
    builtin "makemap" [.str ty] h = some (.ok ([.ref h.length], h ++ [{ ty := ty, kvs := [] }])) := by rw [builtin]
@[scoped simp ↓] theorem builtin_makeslice (ty : String) (h : Heap) :
    builtin "makeslice" [.str ty, .int 0] h = some (.ok ([.slice []], h)) := by rw [builtin]

@[scoped simp ↓] theorem binop_eq (a b : GV) :
    binop "==" a b = match goEq a b with | some r => .ok (.bool r) | none => .error (.stuck "==") := by
  rw [binop]; rfl
@[scoped simp ↓] theorem binop_ne (a b : GV) :
    binop "!=" a b = match goEq a b with | some r => .ok (.bool (!r)) | none => .error (.stuck "!=") := by
  rw [binop]; rfl
@[scoped simp ↓] theorem binop_add_str (s t : String) : binop "+" (.str s) (.str t) = .ok (.str (s ++ t)) := by rw [binop]
@[scoped simp ↓] theorem binop_lt_int (i j : Int) : binop "<" (.int i) (.int j) = .ok (.bool (i < j)) := by rw [binop]
@[scoped simp ↓] theorem binop_le_int (i j : Int) : binop "<=" (.int i) (.int j) = .ok (.bool (i ≤ j)) := by rw [binop]
@[scoped simp ↓] theorem binop_lt_f64 (x y : Rat) : binop "<" (.f64 x) (.f64 y) = .ok (.bool (x < y)) := by rw [binop]
@[scoped simp ↓] theorem binop_le_f64 (x y : Rat) : binop "<=" (.f64 x) (.f64 y) = .ok (.bool (x ≤ y)) := by rw [binop]
@[scoped simp ↓] theorem binop_gt_f64 (x y : Rat) : binop ">" (.f64 x) (.f64 y) = .ok (.bool (y < x)) := by rw [binop]
@[scoped simp ↓] theorem binop_ge_f64 (x y : Rat) : binop ">=" (.f64 x) (.f64 y) = .ok (.bool (y ≤ x)) := by rw [binop]

@[scoped simp ↓] theorem zeroOf_string : zeroOf "string" = .str "" := by rw [zeroOf]
@[scoped simp ↓] theorem zeroOf_float64 : zeroOf "float64" = .f64 0 := by rw [zeroOf]

/-! ## the equations of the interpreter, one per constructor

`simp` could unfold these by itself (and does, for forms that the translated code does not use), but
an unfolding is justified by `rfl`: `simp` leaves no trace of it in the proof, and the kernel has to
find the conversion again.

"First `r`, then …" is `r.bind k` here, where the interpreter has
`match r with | .error er => .error er | .ok a => …`, and `k` is a defined function of the value `a`
(given before the equation that uses it), not a `fun`.  For two reasons.

* In a proof that `simp` found the kernel meets pairs of terms that are convertible but not the same:
  an instance of a lemma and the term it was used on write the fuel differently (`j + 4 + 1`, `j + 5`);
  a step by `rfl` leaves the terms before and after it.  When both are applications of a `match` the
  kernel unfolds both and evaluates what is matched on — the interpreter, every variable lookup by string
  comparison, every callee down to where it gets stuck.  Of a defined function like `Except.bind` it
  compares the arguments first.
* `simp` rewrites inside a `fun`, so it would run what comes after `r` on a value it does not know; a
  defined `k` waits for `bind_ok`.  So `simp` stops where it meets a value it does not know, and a proof
  can run a function up to there, split, and go on from there. -/

@[scoped simp] theorem bind_ok {α β : Type} (a : α) (k : α → R β) : (Except.ok a : R α).bind k = k a := by
  rw [Except.bind]
@[scoped simp] theorem bind_error {α β : Type} (er : Fail) (k : α → R β) :
    (Except.error er : R α).bind k = .error er := by
  rw [Except.bind]

attribute [scoped simp] Except.map.eq_1 Except.map.eq_2

section
variable {n : Nat} {p : Prog} {g env : Env} {h : Heap}

/-! ### expressions -/

@[scoped simp ↓] theorem evalE_lit (v : GV) : evalE (n + 1) p g env h (.lit v) = .ok ([v], h) := evalE.eq_2 ..

@[scoped simp ↓] theorem evalE_var (x : String) :
    evalE (n + 1) p g env h (.var x) =
      match envGet x env with
      | some v => .ok ([v], h)
      | none => match envGet x g with
        | some v => .ok ([v], h)
        | none => .error (.stuck ("unbound " ++ x)) := evalE.eq_3 ..

def single : List GV × Heap → R (GV × Heap)
  | ([v], h1) => .ok (v, h1)
  | _ => .error (.stuck "multi-value in single-value context")

@[scoped simp ↓] theorem eval1_succ (e : GE) : eval1 (n + 1) p g env h e = (evalE n p g env h e).bind single := by
  rw [eval1.eq_2]
  rcases evalE n p g env h e with er | ⟨vs, h1⟩
  · rfl
  · rcases vs with _ | ⟨v, _ | _⟩ <;> rfl

def argsRest (n : Nat) (p : Prog) (g env : Env) (es : List GE) : GV × Heap → R (List GV × Heap)
  | (v, h1) => (evalArgs n p g env h1 es).map fun (vs, h2) => (v :: vs, h2)

@[scoped simp ↓] theorem evalArgs_nil : evalArgs (n + 1) p g env h [] = .ok ([], h) := evalArgs.eq_2 ..

@[scoped simp ↓] theorem evalArgs_cons (e : GE) (es : List GE) :
    evalArgs (n + 1) p g env h (e :: es) = (eval1 n p g env h e).bind (argsRest n p g env es) := by
  rw [evalArgs.eq_3]
  rcases eval1 n p g env h e with er | ⟨v, h1⟩
  · rfl
  · simp only [bind_ok, argsRest]
    cases evalArgs n p g env h1 es <;> rfl

def callWith (n : Nat) (p : Prog) (g : Env) (f : String) : List GV × Heap → R (List GV × Heap)
  | (vs, h1) =>
    match builtin f vs h1 with
    | some r => r
    | none => callFn n p g f .nil vs h1

@[scoped simp ↓] theorem evalE_call (f : String) (args : List GE) :
    evalE (n + 1) p g env h (.call f args) = (evalArgs n p g env h args).bind (callWith n p g f) := by
  rw [evalE.eq_5]; cases evalArgs n p g env h args <;> rfl

def mcallWith (n : Nat) (p : Prog) (g : Env) (f : String) (rv : GV) : List GV × Heap → R (List GV × Heap)
  | (vs, h2) => callFn n p g f rv vs h2

def mcallArgs (n : Nat) (p : Prog) (g env : Env) (f : String) (args : List GE) : GV × Heap → R (List GV × Heap)
  | (rv, h1) => (evalArgs n p g env h1 args).bind (mcallWith n p g f rv)

@[scoped simp ↓] theorem evalE_mcall (r : GE) (f : String) (args : List GE) :
    evalE (n + 1) p g env h (.mcall r f args) = (eval1 n p g env h r).bind (mcallArgs n p g env f args) := by
  rw [evalE.eq_6]
  rcases eval1 n p g env h r with er | ⟨rv, h1⟩
  · rfl
  · simp only [bind_ok, mcallArgs]
    cases evalArgs n p g env h1 args <;> rfl

def andRight (n : Nat) (p : Prog) (g env : Env) (b : GE) : GV × Heap → R (List GV × Heap)
  | (.bool false, h1) => .ok ([.bool false], h1)
  | (.bool true, h1) => evalE n p g env h1 b
  | _ => .error (.stuck "&&")

@[scoped simp ↓] theorem evalE_and (a b : GE) :
    evalE (n + 1) p g env h (.bin "&&" a b) = (eval1 n p g env h a).bind (andRight n p g env b) := by
  rw [evalE.eq_7]
  rcases eval1 n p g env h a with er | ⟨v, h1⟩
  · rfl
  · cases v <;> first | rfl | (rename_i c; cases c <;> rfl)

/-- after the first of two operands: the second one is evaluated, and `k` gets both values -/
def operand2 {β : Type} (n : Nat) (p : Prog) (g env : Env) (e : GE) (k : GV → GV × Heap → R β) : GV × Heap → R β
  | (va, h1) => (eval1 n p g env h1 e).bind (k va)

def binRight (op : String) (va : GV) : GV × Heap → R (List GV × Heap)
  | (vb, h2) => (binop op va vb).map fun v => ([v], h2)

@[scoped simp ↓] theorem evalE_bin {op : String} (a b : GE) (h1 : op ≠ "&&") (h2 : op ≠ "||") :
    evalE (n + 1) p g env h (.bin op a b) = (eval1 n p g env h a).bind (operand2 n p g env b (binRight op)) := by
  rw [evalE.eq_9 _ _ _ _ _ _ _ _ h1 h2]
  rcases eval1 n p g env h a with er | ⟨va, h1⟩
  · rfl
  · simp only [bind_ok, operand2]
    cases eval1 n p g env h1 b <;> rfl

def notOf : GV × Heap → R (List GV × Heap)
  | (.bool b, h1) => .ok ([.bool (!b)], h1)
  | _ => .error (.stuck "!")

@[scoped simp ↓] theorem evalE_not (a : GE) :
    evalE (n + 1) p g env h (.un "!" a) = (eval1 n p g env h a).bind notOf := by
  rw [evalE.eq_10]
  rcases eval1 n p g env h a with er | ⟨v, h1⟩
  · rfl
  · cases v <;> rfl

def fieldOf (f : String) : GV × Heap → R (List GV × Heap)
  | (.ref a, h1) =>
    match heapGet h1 a with
    | some o => match mlookup (.str f) o.kvs with
      | some v => .ok ([v], h1)
      | none => .error (.stuck ("no field " ++ f))
    | none => .error (.stuck "field: dangling")
  | (.nil, _) => .error (.panic "nil dereference")
  | _ => .error (.stuck "field of a non-struct")

@[scoped simp ↓] theorem evalE_field (e : GE) (f : String) :
    evalE (n + 1) p g env h (.field e f) = (eval1 n p g env h e).bind (fieldOf f) := by
  rw [evalE.eq_4]
  rcases eval1 n p g env h e with er | ⟨v, h1⟩
  · rfl
  · cases v <;> rfl

def indexRight (va : GV) : GV × Heap → R (List GV × Heap)
  | (vi, h2) => (indexV h2 va vi).map fun v => ([v.1], h2)

@[scoped simp ↓] theorem evalE_index (a i : GE) :
    evalE (n + 1) p g env h (.index a i) = (eval1 n p g env h a).bind (operand2 n p g env i indexRight) := by
  rw [evalE.eq_13]
  rcases eval1 n p g env h a with er | ⟨va, h1⟩
  · rfl
  · simp only [bind_ok, operand2]
    cases eval1 n p g env h1 i <;> rfl

def assertTy (ty : String) : GV × Heap → R (List GV × Heap)
  | (va, h1) => if typeOf h1 va = parseTy ty then .ok ([va], h1) else .error (.panic ("interface conversion: not " ++ ty))

@[scoped simp ↓] theorem evalE_assert (a : GE) (ty : String) :
    evalE (n + 1) p g env h (.assert a ty) = (eval1 n p g env h a).bind (assertTy ty) := by
  rw [evalE.eq_15]; cases eval1 n p g env h a <;> rfl

@[scoped simp ↓] theorem evalE_comp (ty : String) (elts : List GE) :
    evalE (n + 1) p g env h (.comp ty elts) = (evalArgs n p g env h elts).map fun (vs, h1) => ([.slice vs], h1) := by
  rw [evalE.eq_16]; cases evalArgs n p g env h elts <;> rfl

/-! ### assignments -/

@[scoped simp ↓] theorem assignTo_var (define : Bool) (x : String) (v : GV) :
    assignTo (n + 1) p g env h define (.var x) v =
      if define then .ok ((x, v) :: env, h)
      else match envSet x v env with
        | some env' => .ok (env', h)
        | none => .error (.stuck ("assignment to undeclared " ++ x)) := assignTo.eq_3 ..

def storeRight (env : Env) (v va : GV) : GV × Heap → R (Env × Heap)
  | (vi, h2) =>
    match va with
    | .ref ad =>
      match heapGet h2 ad with
      | some o => .ok (env, heapSet h2 ad { o with kvs := minsert vi v o.kvs })
      | none => .error (.stuck "store: dangling")
    | .nil => .error (.panic "assignment to entry in nil map")
    | _ => .error (.stuck "store into a non-map")

@[scoped simp ↓] theorem assignTo_index (define : Bool) (a i : GE) (v : GV) :
    assignTo (n + 1) p g env h define (.index a i) v = (eval1 n p g env h a).bind (operand2 n p g env i (storeRight env v)) := by
  rw [assignTo.eq_4]
  rcases eval1 n p g env h a with er | ⟨va, h1⟩
  · rfl
  · simp only [bind_ok, operand2]
    cases eval1 n p g env h1 i <;> rfl

def assignRest (n : Nat) (p : Prog) (g : Env) (define : Bool) (ls : List GL) (vs : List GV) : Env × Heap → R (Env × Heap)
  | (env1, h1) => assignAll n p g env1 h1 define ls vs

@[scoped simp ↓] theorem assignAll_nil (define : Bool) : assignAll (n + 1) p g env h define [] [] = .ok (env, h) :=
  assignAll.eq_2 ..

@[scoped simp ↓] theorem assignAll_cons (define : Bool) (l : GL) (ls : List GL) (v : GV) (vs : List GV) :
    assignAll (n + 1) p g env h define (l :: ls) (v :: vs) =
      (assignTo n p g env h define l v).bind (assignRest n p g define ls vs) := by
  rw [assignAll.eq_3]; cases assignTo n p g env h define l v <;> rfl

def assignVals (n : Nat) (p : Prog) (g env : Env) (define : Bool) (lhs : List GL) : List GV × Heap → R (Flow × Env × Heap)
  | (vs, h1) => (assignAll n p g env h1 define lhs vs).map fun (env1, h2) => (.next, env1, h2)

@[scoped simp ↓] theorem execS_assign (define : Bool) (lhs : List GL) (rhs : GE) :
    execS (n + 1) p g env h (.assign define lhs [rhs]) = (evalE n p g env h rhs).bind (assignVals n p g env define lhs) := by
  rw [execS.eq_2]
  rcases evalE n p g env h rhs with er | ⟨vs, h1⟩
  · rfl
  · simp only [bind_ok, assignVals]
    cases assignAll n p g env h1 define lhs vs <;> rfl

def okIndexRight (n : Nat) (p : Prog) (g env : Env) (define : Bool) (x ok : GL) (va : GV) :
    GV × Heap → R (Flow × Env × Heap)
  | (vi, h2) =>
    match indexV h2 va vi with
    | .error er => .error er
    | .ok (v, found) => (assignAll n p g env h2 define [x, ok] [v, .bool found]).map fun (env1, h3) => (.next, env1, h3)

@[scoped simp ↓] theorem execS_assignOk_index (define : Bool) (x ok : GL) (a i : GE) :
    execS (n + 1) p g env h (.assignOk define x ok (.index a i)) =
      (eval1 n p g env h a).bind (operand2 n p g env i (okIndexRight n p g env define x ok)) := by
  rw [execS.eq_4]
  rcases eval1 n p g env h a with er | ⟨va, h1⟩
  · rfl
  · simp only [bind_ok, operand2]
    rcases eval1 n p g env h1 i with er | ⟨vi, h2⟩
    · rfl
    · simp only [bind_ok, okIndexRight]
      rcases indexV h2 va vi with er | ⟨v, found⟩
      · rfl
      · simp only; cases assignAll n p g env h2 define [x, ok] [v, .bool found] <;> rfl

def okAssert (n : Nat) (p : Prog) (g env : Env) (define : Bool) (x ok : GL) (ty : String) : GV × Heap → R (Flow × Env × Heap)
  | (va, h1) =>
    (assignAll n p g env h1 define [x, ok]
      [if typeOf h1 va = parseTy ty then va else zeroOf ty, .bool (typeOf h1 va = parseTy ty)]).map
      fun (env1, h2) => (.next, env1, h2)

@[scoped simp ↓] theorem execS_assignOk_assert (define : Bool) (x ok : GL) (a : GE) (ty : String) :
    execS (n + 1) p g env h (.assignOk define x ok (.assert a ty)) =
      (eval1 n p g env h a).bind (okAssert n p g env define x ok ty) := by
  rw [execS.eq_5]
  rcases eval1 n p g env h a with er | ⟨va, h1⟩
  · rfl
  · simp only [bind_ok, okAssert]
    cases assignAll n p g env h1 define [x, ok] _ <;> rfl

/-! ### statements and blocks -/

@[scoped simp ↓] theorem execS_varDecl (names : List String) (zero : GV) :
    execS (n + 1) p g env h (.varDecl names zero) = .ok (.next, names.map (fun x => (x, zero)) ++ env, h) := by
  rw [execS.eq_10]

@[scoped simp ↓] theorem execS_ret (e : GE) :
    execS (n + 1) p g env h (.ret [e]) = (evalE n p g env h e).map fun (vs, h1) => (.ret vs, env, h1) := by
  rw [execS.eq_12]; cases evalE n p g env h e <;> rfl

@[scoped simp ↓] theorem execS_retN (e1 e2 : GE) (es : List GE) :
    execS (n + 1) p g env h (.ret (e1 :: e2 :: es)) =
      (evalArgs n p g env h (e1 :: e2 :: es)).map fun (vs, h1) => (.ret vs, env, h1) := by
  rw [execS.eq_13 _ _ _ _ _ _ (by simp)]; cases evalArgs n p g env h (e1 :: e2 :: es) <;> rfl

@[scoped simp ↓] theorem execS_brk (l : String) : execS (n + 1) p g env h (.brk l) = .ok (.brk l, env, h) := by
  rw [execS.eq_19]

@[scoped simp ↓] theorem execS_cont (l : String) : execS (n + 1) p g env h (.cont l) = .ok (.cont l, env, h) := by
  rw [execS.eq_20]

def initEnd : Flow × Env × Heap → R (Env × Heap)
  | (.next, env1, h1) => .ok (env1, h1)
  | _ => .error (.stuck "control flow in an init statement")

@[scoped simp ↓] theorem execOpt_none : execOpt (n + 1) p g env h none = .ok (env, h) := execOpt.eq_2 ..

@[scoped simp ↓] theorem execOpt_some (s : GS) :
    execOpt (n + 1) p g env h (some s) = (execS n p g env h s).bind initEnd := by
  rw [execOpt.eq_3]
  rcases execS n p g env h s with er | ⟨fl, env1, h1⟩
  · rfl
  · cases fl <;> rfl

/-- a block seen from outside: its definitions are forgotten -/
def blockEnd (entry : Nat) : Flow × Env × Heap → Flow × Env × Heap
  | (fl, env1, h1) => (fl, envLeave entry env1, h1)

@[scoped simp ↓, scoped simp] theorem execBlock_succ (body : List GS) :
    execBlock (n + 1) p g env h body = (execB n p g env h body).map (blockEnd env.length) := by
  rw [execBlock.eq_2]; cases execB n p g env h body <;> rfl

def ifBody (n : Nat) (p : Prog) (g : Env) (entry : Nat) (env1 : Env) (thn els : List GS) : GV × Heap → R (Flow × Env × Heap)
  | (c, h2) =>
    match truthy c with
    | none => .error (.stuck "if: not a bool")
    | some b => (execBlock n p g env1 h2 (if b then thn else els)).map (blockEnd entry)

def ifCond (n : Nat) (p : Prog) (g : Env) (entry : Nat) (cond : GE) (thn els : List GS) : Env × Heap → R (Flow × Env × Heap)
  | (env1, h1) => (eval1 n p g env1 h1 cond).bind (ifBody n p g entry env1 thn els)

@[scoped simp ↓] theorem execS_ifs (init : Option GS) (cond : GE) (thn els : List GS) :
    execS (n + 1) p g env h (.ifs init cond thn els) =
      (execOpt n p g env h init).bind (ifCond n p g env.length cond thn els) := by
  rw [execS.eq_14]
  rcases execOpt n p g env h init with er | ⟨env1, h1⟩
  · rfl
  · simp only [bind_ok, ifCond]
    rcases eval1 n p g env1 h1 cond with er | ⟨c, h2⟩
    · rfl
    · simp only [bind_ok, ifBody]
      cases truthy c with
      | none => rfl
      | some b => dsimp only; cases execBlock n p g env1 h2 (if b then thn else els) <;> rfl

def rangeOver (n : Nat) (p : Prog) (g env : Env) (label k v : String) (body : List GS) : GV × Heap → R (Flow × Env × Heap)
  | (c, h1) =>
    match rangeItems h1 c with
    | none => .error (.stuck "range over an unsupported value")
    | some items => loopR n p g env h1 label k v items body

@[scoped simp ↓] theorem execS_range (label k v : String) (e : GE) (body : List GS) :
    execS (n + 1) p g env h (.range label k v e body) = (eval1 n p g env h e).bind (rangeOver n p g env label k v body) := by
  rw [execS.eq_16]; cases eval1 n p g env h e <;> rfl

def execRest (n : Nat) (p : Prog) (g : Env) (rest : List GS) : Flow × Env × Heap → R (Flow × Env × Heap)
  | (.next, env1, h1) => execB n p g env1 h1 rest
  | r => .ok r

-- (these three also after the arguments are simplified: a body arrives as `d.body` or behind a shape lemma)
@[scoped simp] theorem execB_nil : execB (n + 1) p g env h [] = .ok (.next, env, h) := execB.eq_2 ..

@[scoped simp ↓, scoped simp] theorem execB_cons (s : GS) (rest : List GS) :
    execB (n + 1) p g env h (s :: rest) = (execS n p g env h s).bind (execRest n p g rest) := by
  rw [execB.eq_3]
  rcases execS n p g env h s with er | ⟨fl, env1, h1⟩
  · rfl
  · cases fl <;> rfl

/-- the last statement of a block -/
@[scoped simp ↓ high, scoped simp high] theorem execB_single (s : GS) :
    execB (n + 1) p g env h [s] = execS n p g env h s := by
  cases n with
  | zero => rfl
  | succ n =>
    simp only [execB]
    cases execS (n + 1) p g env h s with
    | error er => rfl
    | ok r => obtain ⟨fl, env1, h1⟩ := r; cases fl <;> rfl

end

-- what comes next, by unfolding where it only takes the value apart, by its equations where it looks at it
-- (so that it waits for it)
attribute [scoped simp] argsRest callWith mcallWith mcallArgs operand2 binRight indexRight assertTy
  storeRight assignRest assignVals okIndexRight okAssert initEnd blockEnd ifBody ifCond rangeOver execRest
  single.eq_1 andRight.eq_1 andRight.eq_2 notOf.eq_1 fieldOf.eq_1 fieldOf.eq_2

/-- what a call hands back when the body of the function ended with `r` -/
def retOf : R (Flow × Env × Heap) → R (List GV × Heap)
  | .error er => .error er
  | .ok (.ret vs, _, h1) => .ok (vs, h1)
  | .ok (.next, _, h1) => .ok ([], h1)
  | .ok _ => .error (.stuck "break/continue left a function")

attribute [scoped simp] retOf.eq_1 retOf.eq_2 retOf.eq_3

/-- a declared function is found under its name, the names of the declarations being distinct -/
theorem findFn_of_mem {p : Prog} (hn : (p.fns.map (·.name)).Nodup) {d : FnDecl} (hd : d ∈ p.fns) :
    findFn p d.name = some d := by
  unfold findFn
  generalize p.fns = fns at hn hd
  induction fns with
  | nil => cases hd
  | cons x xs ih =>
    rw [List.map_cons, List.nodup_cons] at hn
    rw [List.find?_cons]
    rcases List.mem_cons.mp hd with rfl | hd
    · rw [beq_self_eq_true]
    · have : (x.name == d.name) = false := beq_false_of_ne fun h => hn.1 (h ▸ List.mem_map_of_mem hd)
      rw [this]; exact ih hn.2 hd

/-- entering the declared function `d`: what is left to show is `hr`, about its body.  `hn` is a closed
    fact about a fixed table, for the kernel to evaluate once (`by decide +kernel`); `hd` is found by
    walking down the table — both without a position in the table, and, `hn` apart, without comparing
    names, which the kernel does slowly.  `hb` is given where the body is to be entered in pieces, and
    `env` with it: unification finds it in a form that mentions `d.recv`, which simp reads only by
    unfolding `d`. -/
theorem callFn_run {p : Prog} (hn : (p.fns.map (·.name)).Nodup) (d : FnDecl) {f : String} {recv : GV} {args : List GV}
    {env : Env} {body : List GS} {n : Nat} {g : Env} {h : Heap} {r : R (List GV × Heap)}
    (hr : retOf (execB n p g env h body) = r) (hd : d ∈ p.fns := by repeat constructor) (hf : d.name = f := by rfl)
    (he : (bindParams d.params d.variadic args).map
      (fun env0 => if d.recv = "" then env0 else (d.recv, recv) :: env0) = some env := by rfl)
    (hb : d.body = body := by rfl) :
    callFn (n + 1) p g f recv args h = r := by
  subst hb hf hr
  obtain ⟨env0, hbp, rfl⟩ := Option.map_eq_some_iff.mp he
  simp only [callFn, findFn_of_mem hn hd, hbp]
  cases execB n p g _ h d.body with
  | error e => rfl
  | ok r => obtain ⟨fl, env1, h1⟩ := r; cases fl <;> rfl

/-! ## dynamic types and type switches -/

-- the equations of `typeOf` but the one for `.ref`, which is a `match` on the heap
attribute [scoped simp] typeOf.eq_1 typeOf.eq_2 typeOf.eq_3 typeOf.eq_4 typeOf.eq_5 typeOf.eq_6 typeOf.eq_7 typeOf.eq_9
  typeOf.eq_10

/-- a value is known by its dynamic type -/
theorem typeOf_inv {H : Heap} {x : GV} {t : GT} : typeOf H x = t →
    match t with
    | .nil => x = .nil
    | .bool => ∃ b, x = .bool b
    | .f64 => ∃ q, x = .f64 q
    | .int => ∃ i, x = .int i
    | .num t => ∃ i, x = .numT t i
    | .str => ∃ s, x = .str s
    | .slice => ∃ xs, x = .slice xs
    | .err => ∃ m, x = .err m
    | .named n => ∃ a o, x = .ref a ∧ heapGet H a = some o ∧ o.ty = n
    | .other t => x = .other t
    | .dangling => ∃ a, x = .ref a ∧ heapGet H a = none := by
  rintro rfl
  cases x with
  | ref a => cases hh : heapGet H a <;> simp [typeOf, hh]
  | _ => simp [typeOf]

/-- the arm of a type switch that is taken for the dynamic type `ty` -/
def armOf (cases : List (List String × List GS)) (dflt : Option (List GS)) (ty : GT) : List GS :=
  match cases.find? (fun c => c.1.any (fun t => parseTy t = ty)) with
  | some c => c.2
  | none => dflt.getD []

/-- what a `switch` makes of the result of its arm: a plain `break` ends it, its definitions are forgotten -/
def switchEnd (entry : Nat) : R (Flow × Env × Heap) → R (Flow × Env × Heap)
  | .error er => .error er
  | .ok (fl, env2, h2) => .ok (match fl with | .brk "" => .next | fl => fl, envLeave entry env2, h2)

@[scoped simp] theorem switchEnd_ok (entry : Nat) (fl : Flow) (env : Env) (h : Heap) :
    switchEnd entry (.ok (fl, env, h)) = .ok (match fl with | .brk "" => .next | fl => fl, envLeave entry env, h) := rfl

/-- the arm of a type switch on the value of its expression -/
def switchArm (n : Nat) (p : Prog) (g env : Env) (bind : String) (cases : List (List String × List GS))
    (dflt : Option (List GS)) : GV × Heap → R (Flow × Env × Heap)
  | (v, h1) =>
    switchEnd env.length
      (execBlock n p g (if bind = "" then env else (bind, v) :: env) h1 (armOf cases dflt (typeOf h1 v)))

attribute [scoped simp] switchArm

/-- a type switch with its case list left as it is: which arm runs is `armOf`'s business -/
@[scoped simp ↓] theorem execS_switchT (n : Nat) (p : Prog) (g env : Env) (h : Heap) (bind : String) (e : GE)
    (cases : List (List String × List GS)) (dflt : Option (List GS)) :
    execS (n + 1) p g env h (.switchT bind e cases dflt) = (eval1 n p g env h e).bind (switchArm n p g env bind cases dflt) := by
  rw [execS.eq_18]
  rcases eval1 n p g env h e with er | ⟨v, h1⟩
  · rfl
  · simp only [bind_ok, switchArm, armOf]
    rcases execBlock n p g (if bind = "" then env else (bind, v) :: env) h1 _ with er | ⟨fl, env2, h2⟩
    · rfl
    · cases fl with
      | brk l => by_cases hl : l = "" <;> simp [switchEnd, hl]
      | _ => rfl

@[scoped simp] theorem armOf_nil (dflt : Option (List GS)) (ty : GT) : armOf [] dflt ty = dflt.getD [] := rfl

@[scoped simp] theorem armOf_cons (ts : List String) (arm : List GS) (rest : List (List String × List GS))
    (dflt : Option (List GS)) (ty : GT) :
    armOf ((ts, arm) :: rest) dflt ty = if ty ∈ ts.map parseTy then arm else armOf rest dflt ty := by
  have : ts.any (fun t => decide (parseTy t = ty)) = decide (ty ∈ ts.map parseTy) := by
    induction ts with
    | nil => rfl
    | cons t ts ih => simp only [List.any_cons, ih, List.map_cons, List.mem_cons, Bool.decide_or, eq_comm (a := ty)]
  unfold armOf
  rw [List.find?_cons, this]
  by_cases h : ty ∈ ts.map parseTy <;> simp only [h, decide_true, decide_false, if_true, if_false]

/-- `append` to a slice (and not to the nil slice) gives a slice -/
@[scoped simp] theorem slice_append (xs ys : List GV) [Decidable (xs = [] ∧ ys = [])] :
    (if xs = [] ∧ ys = [] then GV.slice xs else .slice (xs ++ ys)) = .slice (xs ++ ys) := by
  split <;> simp_all

/-! ## values whose constructor is not known -/

theorem goEq_nil_left {x : GV} (h : x ≠ .nil) : goEq .nil x = some false := by
  cases x <;> simp_all [goEq]

theorem sliceElems_none {x : GV} (hn : x ≠ .nil) (hs : ∀ xs, x ≠ .slice xs) : sliceElems x = none := by
  cases x <;> simp_all [sliceElems]

theorem heapGet_lt {H : Heap} {a : Nat} {o : MapObj} (h : heapGet H a = some o) : a < H.length :=
  (List.getElem?_eq_some_iff.mp h).1

theorem heapGet_set_same {H : Heap} {L : Nat} {o : MapObj} (o' : MapObj) (h : heapGet H L = some o) :
    heapGet (heapSet H L o') L = some o' := by
  simp [heapGet, heapSet, heapGet_lt h]

theorem heapSet_set (H : Heap) (L : Nat) (o o' : MapObj) : heapSet (heapSet H L o) L o' = heapSet H L o' :=
  List.set_set ..

theorem heapGet_append {H : Heap} {a : Nat} {o : MapObj} (extra : Heap) (h : heapGet H a = some o) :
    heapGet (H ++ extra) a = some o := by
  unfold heapGet at *; rw [List.getElem?_append_left (heapGet_lt h)]; exact h

theorem heapGet_append_length (H : Heap) (o : MapObj) : heapGet (H ++ [o]) H.length = some o := by
  simp [heapGet]

/-! ## `range` loops -/

/-- the items of a `range` over a slice: its elements, in order -/
theorem rangeItems_slice (H : Heap) (xs : List GV) :
    ∃ items, rangeItems H (.slice xs) = some items ∧ items.map (·.2) = xs ∧ items.length = xs.length := by
  refine ⟨_, rfl, ?_, by simp⟩
  have := List.map_snd_zip (l₁ := List.range xs.length) (l₂ := xs) (by simp)
  simpa [List.map_map, Function.comp_def] using this

/-- the variables of one pass of a `range` loop -/
def rangeEnv (k v : String) (it : GV × GV) (env : Env) : Env :=
  (if v = "" || v = "_" then [] else [(v, it.2)]) ++ (if k = "" || k = "_" then [] else [(k, it.1)]) ++ env

/-- what a loop labelled `label` does after a pass that ended with `fl`: `none` = on to the next item -/
def loopFlow (label : String) : Flow → Option Flow
  | .next => none
  | .cont l => if l = "" || l = label then none else some (.cont l)
  | .brk l => some (if l = "" || l = label then .next else .brk l)
  | .ret vs => some (.ret vs)

attribute [scoped simp] rangeEnv loopFlow

theorem loopR_cons (n : Nat) (p : Prog) (g env : Env) (h : Heap) (label k v : String) (it : GV × GV)
    (items : List (GV × GV)) (body : List GS) :
    loopR (n + 1) p g env h label k v (it :: items) body =
      match execBlock n p g (rangeEnv k v it env) h body with
      | .error er => .error er
      | .ok (fl, env2, h1) =>
        match loopFlow label fl with
        | none => loopR n p g (envLeave env.length env2) h1 label k v items body
        | some fl' => .ok (fl', envLeave env.length env2, h1) := by
  obtain ⟨ik, iv⟩ := it
  simp only [loopR, rangeEnv]
  cases execBlock n p g _ h body with
  | error er => rfl
  | ok r =>
    obtain ⟨fl, env2, h1⟩ := r
    cases fl with
    | next | ret vs => rfl
    | cont l | brk l => simp only [loopFlow]; split <;> rfl

/-- **The loop rule.**  A loop over `items`, started in the state `s` (which determines the variables
    `envOf s` and the heap `heapOf s`) with enough fuel, ends in a result that satisfies `Post items s`,
    provided `Post` holds of an empty loop and is carried backwards over one pass of the body: from a
    state that satisfies the invariant `Inv`, with any fuel from `K` on, the pass either goes on to a
    state `s'` that satisfies `Inv` for the remaining items, and then whatever `Post` says of the rest
    from `s'` it says of the whole, or it leaves the loop with a result of which `Post` holds.
    (The result of the pass is a variable `r` with an equation, so that the case analysis in a proof
    of `hcons` is done on a goal without the interpreter in it, which tactics would try to evaluate.) -/
theorem loopR_rule {σ : Type} {p : Prog} {g : Env} {label k v : String} {body : List GS}
    (envOf : σ → Env) (heapOf : σ → Heap) (K : Nat)
    (Inv : List (GV × GV) → σ → Prop) (Post : List (GV × GV) → σ → R (Flow × Env × Heap) → Prop)
    (hnil : ∀ s, Inv [] s → Post [] s (.ok (.next, envOf s, heapOf s)))
    (hcons : ∀ it items s j, Inv (it :: items) s →
      ∀ r, execBlock (j + K) p g (rangeEnv k v it (envOf s)) (heapOf s) body = r →
      match r with
      | .error er => Post (it :: items) s (.error er)
      | .ok (fl, env2, h1) =>
        match loopFlow label fl with
        | none => ∃ s', Inv items s' ∧ envLeave (envOf s).length env2 = envOf s' ∧ h1 = heapOf s' ∧
            ∀ r, Post items s' r → Post (it :: items) s r
        | some fl' => Post (it :: items) s (.ok (fl', envLeave (envOf s).length env2, h1))) :
    ∀ items s f, Inv items s → items.length + K + 1 ≤ f →
      Post items s (loopR f p g (envOf s) (heapOf s) label k v items body) := by
  intro items
  induction items with
  | nil =>
    intro s f hI hf
    obtain ⟨f, rfl⟩ : ∃ j, f = j + 1 := ⟨f - 1, by omega⟩
    rw [loopR]; exact hnil s hI
  | cons it items ih =>
    intro s f hI hf
    obtain ⟨j, rfl⟩ : ∃ j, f = j + K + 1 := ⟨f - K - 1, by simp only [List.length_cons] at hf; omega⟩
    have hc := hcons it items s j hI _ rfl
    rw [loopR_cons]
    revert hc
    rcases execBlock (j + K) p g (rangeEnv k v it (envOf s)) (heapOf s) body with er | ⟨fl, env2, h1⟩
    · exact id
    · simp only
      cases loopFlow label fl with
      | some fl' => exact id
      | none =>
        rintro ⟨s', hI', he, hh, hP⟩
        rw [he, hh]
        exact hP _ (ih s' (j + K) hI' (by simp only [List.length_cons] at hf; omega))

/-- the loop rule for a loop whose result is a function `post` of the items and the state it starts in -/
theorem loopR_eq {σ : Type} {p : Prog} {g : Env} {label k v : String} {body : List GS}
    (envOf : σ → Env) (heapOf : σ → Heap) (K : Nat)
    (Inv : List (GV × GV) → σ → Prop) (post : List (GV × GV) → σ → R (Flow × Env × Heap))
    (hnil : ∀ s, Inv [] s → post [] s = .ok (.next, envOf s, heapOf s))
    (hcons : ∀ it items s j, Inv (it :: items) s →
      ∀ r, execBlock (j + K) p g (rangeEnv k v it (envOf s)) (heapOf s) body = r →
      match r with
      | .error er => post (it :: items) s = .error er
      | .ok (fl, env2, h1) =>
        match loopFlow label fl with
        | none => ∃ s', Inv items s' ∧ envLeave (envOf s).length env2 = envOf s' ∧ h1 = heapOf s' ∧
            post (it :: items) s = post items s'
        | some fl' => post (it :: items) s = .ok (fl', envLeave (envOf s).length env2, h1))
    (items : List (GV × GV)) (s : σ) (f : Nat) (hI : Inv items s) (hf : items.length + K + 1 ≤ f) :
    loopR f p g (envOf s) (heapOf s) label k v items body = post items s := by
  refine (loopR_rule envOf heapOf K Inv (fun items s r => post items s = r) hnil
    (fun it items s j hI r hr => ?_) items s f hI hf).symm
  have hc := hcons it items s j hI r hr
  revert hc
  rcases r with er | ⟨fl, env2, h1⟩
  · exact id
  · simp only
    cases loopFlow label fl with
    | some fl' => exact id
    | none => exact fun ⟨s', hI', he, hh, hp⟩ => ⟨s', hI', he, hh, fun r hr => hp.trans hr⟩

end Go
