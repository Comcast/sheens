import Sheens.Proofs.MatchEqs

/-!
# Fuel monotonicity of the matcher

`Mono n`: for each function of the `mutual` block, a result at fuel `n` that is not `diverge` is
the result at fuel `n+1`.  `mono_succ` is the step for all eleven together, `mono_all` the induction on the
fuel.
-/

namespace Sheens.Total

/-- the "fuel exhausted" value of the `Sum`-valued loops -/
abbrev dvg {α : Type} : Sum MRes α := .inl .diverge

/-- close a goal whose hypothesis `h` says "the caller does not diverge" after the callee `hC` did -/
macro "fuel_dead" h:ident hC:ident : tactic =>
  `(tactic| (rw [$hC:ident] at $h:ident; exact absurd rfl $h))

structure Mono (n : Nat) : Prop where
  matchF : ∀ {p f bs}, matchF n p f bs ≠ .diverge → matchF (n+1) p f bs = matchF n p f bs
  matchStr : ∀ {s f bs}, matchStr n s f bs ≠ .diverge → matchStr (n+1) s f bs = matchStr n s f bs
  matchBound : ∀ {b f bs}, matchBound n b f bs ≠ .diverge →
    matchBound (n+1) b f bs = matchBound n b f bs
  matchObj : ∀ {pm f bs}, matchObj n pm f bs ≠ .diverge → matchObj (n+1) pm f bs = matchObj n pm f bs
  matchArr : ∀ {ps f bs}, matchArr n ps f bs ≠ .diverge → matchArr (n+1) ps f bs = matchArr n ps f bs
  loopXs : ∀ {xs fxs bsss fxas e}, loopXs n xs fxs bsss fxas e ≠ dvg →
    loopXs (n+1) xs fxs bsss fxas e = loopXs n xs fxs bsss fxas e
  arraycat : ∀ {bsss pat fxas}, arraycat n bsss pat fxas ≠ dvg →
    arraycat (n+1) bsss pat fxas = arraycat n bsss pat fxas
  arrayOne : ∀ {bss pat mm todo}, arrayOne n bss pat mm todo ≠ dvg →
    arrayOne (n+1) bss pat mm todo = arrayOne n bss pat mm todo
  matchWith : ∀ {bss p f}, matchWith n bss p f ≠ .diverge → matchWith (n+1) bss p f = matchWith n bss p f
  mapcat : ∀ {bss pm fm}, mapcat n bss pm fm ≠ .diverge → mapcat (n+1) bss pm fm = mapcat n bss pm fm
  propGather : ∀ {bss k v fm}, propGather n bss k v fm ≠ .diverge →
    propGather (n+1) bss k v fm = propGather n bss k v fm

theorem mono_zero : Mono 0 :=
  ⟨absurd rfl, absurd rfl, absurd rfl, absurd rfl, absurd rfl, absurd rfl, absurd rfl, absurd rfl,
   absurd rfl, absurd rfl, absurd rfl⟩

/-- a test between the caller and its callees: the same on both sides, so each branch is on its own -/
theorem mono_ite {α : Type} {d : α} {c : Prop} [Decidable c] {a a' b b' : α}
    (ha : a ≠ d → a' = a) (hb : b ≠ d → b' = b) :
    (if c then a else b) ≠ d → (if c then a' else b') = if c then a else b := by
  by_cases hc : c
  · rw [if_pos hc, if_pos hc]; exact ha
  · rw [if_neg hc, if_neg hc]; exact hb

/- "The caller does not diverge at fuel `n+1`" stays in the goal until a callee is reached: it and
   the right-hand side hold the same term, so one rewrite or case split serves both.  It is
   introduced as `h` for the callee: had that diverged at fuel `n`, so would the caller
   (`fun hc => h (by rw [hc])`), hence the callee's result at `n+1` is its result at `n`. -/
theorem mono_succ {n : Nat} (ih : Mono n) : Mono (n+1) where
  matchF := by
    intro p f bs
    rw [matchF_succ, matchF_succ]
    cases fudge p with
    | str s => exact ih.matchStr
    | arr ps => exact ih.matchArr
    | obj pm => exact ih.matchObj
    | _ => exact fun _ => rfl
  matchStr := by
    intro s f bs
    rcases matchStr_arm s f bs with ⟨r, hc⟩ | ⟨b, _, _, ht⟩
    · rw [hc, hc]; exact fun _ => rfl
    · rw [ht, ht]; exact ih.matchBound
  matchBound := by
    intro b f bs
    rcases matchBound_arm b f bs with ⟨r, hc⟩ | ⟨_, ht⟩
    · rw [hc, hc]; exact fun _ => rfl
    · rw [ht, ht]; exact ih.matchF
  matchObj := by
    intro pm f bs
    rcases matchObj_other pm f bs with ⟨fm, rfl⟩ | hc
    · rcases matchObj_arms pm fm bs with ⟨_, hc⟩ | ⟨_, hc⟩ | ⟨k, v, _, _, ht⟩ | ⟨_, _, ht⟩
      · rw [hc, hc]; exact fun _ => rfl
      · rw [hc, hc]; exact fun _ => rfl
      · rw [ht, ht]; exact ih.propGather
      · rw [ht, ht]; exact ih.mapcat
    · rw [hc, hc]; exact fun _ => rfl
  matchArr := by
    intro ps f bs
    rw [matchArr_succ, matchArr_succ]
    cases getVariable ps none [] with
    | error e => exact fun _ => rfl
    | ok vx =>
      obtain ⟨v, xs⟩ := vx
      cases f with
      | arr fa =>
        dsimp only
        intro h
        rw [ih.loopXs fun hc => h (by rw [hc])]
        revert h
        cases loopXs n xs (indexScalars fa []) [[bs]] [indexStruct fa 0]
            (indexStruct fa 0).isEmpty with
        | inl r => exact fun _ => rfl
        | inr y =>
          obtain ⟨fxs', bsss, fxas⟩ := y
          cases v with
          | none => exact fun _ => rfl
          | some vn =>
            dsimp only
            intro h
            rw [ih.arraycat fun hc => h (by rw [hc])]
      | _ => exact fun _ => rfl
  loopXs := by
    intro xs fxs bsss fxas e
    cases xs with
    | nil => exact fun _ => rfl
    | cons x xs =>
      rw [loopXs_cons, loopXs_cons]
      cases x.scalar? with
      | some sc =>
        exact mono_ite ih.loopXs fun _ => rfl
      | none =>
        refine mono_ite (fun _ => rfl) fun h => ?_
        rw [ih.arraycat fun hc => h (by rw [hc])]
        revert h
        cases arraycat n bsss x fxas with
        | inl r => exact fun _ => rfl
        | inr y => exact mono_ite (fun _ => rfl) ih.loopXs
  arraycat := by
    intro bsss pat fxas h
    cases bsss with
    | nil => rfl
    | cons bss bsss =>
      cases fxas with
      | nil => rfl
      | cons mm fxas =>
        revert h
        rw [arraycat_cons, arraycat_cons]
        intro h
        rw [ih.arrayOne fun hc => h (by rw [hc])]
        revert h
        cases arrayOne n bss pat mm mm with
        | inl r => exact fun _ => rfl
        | inr x =>
          intro h
          rw [ih.arraycat fun hc => h (by rw [hc])]
  arrayOne := by
    intro bss pat mm todo
    cases todo with
    | nil => exact fun _ => rfl
    | cons jf todo =>
      obtain ⟨j, fact⟩ := jf
      rw [arrayOne_cons, arrayOne_cons]
      intro h
      rw [ih.matchWith fun hc => h (by rw [hc])]
      revert h
      cases matchWith n bss pat fact with
      | ok acc =>
        intro h
        rw [ih.arrayOne fun hc => h (by rw [hc])]
      | _ => exact fun _ => rfl
  matchWith := by
    intro bss p f
    cases bss with
    | nil => exact fun _ => rfl
    | cons bs rest =>
      rw [matchWith_cons, matchWith_cons]
      intro h
      rw [ih.matchF fun hc => h (by rw [hc])]
      revert h
      cases matchF n p f bs with
      | ok r1 =>
        intro h
        rw [ih.matchWith fun hc => h (by rw [hc])]
      | _ => exact fun _ => rfl
  mapcat := by
    intro bss pm fm
    cases pm with
    | nil => exact fun _ => rfl
    | cons kv rest =>
      obtain ⟨k, v⟩ := kv
      rw [mapcat_cons, mapcat_cons]
      refine mono_ite (fun _ => rfl) ?_
      cases lookup k fm with
      | none => exact mono_ite ih.mapcat fun _ => rfl
      | some fv =>
        dsimp only
        intro h
        rw [ih.matchWith fun hc => h (by rw [hc])]
        revert h
        cases matchWith n bss v fv with
        | ok acc =>
          cases acc with
          | nil => exact fun _ => rfl
          | cons a as => exact ih.mapcat
        | _ => exact fun _ => rfl
  propGather := by
    intro bss k v fm
    cases fm with
    | nil => exact fun _ => rfl
    | cons kv rest =>
      obtain ⟨fk, fv⟩ := kv
      rw [propGather_cons, propGather_cons]
      intro h
      rw [ih.matchWith fun hc => h (by rw [hc])]
      revert h
      cases matchWith n bss (.str k) (.str fk) with
      | ok ext =>
        dsimp only
        by_cases he : ext.isEmpty = true
        · rw [if_pos he, if_pos he]
          intro h
          rw [ih.propGather fun hc => h (by rw [hc])]
        · rw [if_neg he, if_neg he]
          intro h
          rw [ih.matchWith fun hc => h (by rw [hc])]
          revert h
          cases matchWith n ext v fv with
          | ok ext2 =>
            intro h
            rw [ih.propGather fun hc => h (by rw [hc])]
          | _ => exact fun _ => rfl
      | _ => exact fun _ => rfl

theorem mono_all : ∀ n, Mono n
  | 0 => mono_zero
  | n+1 => mono_succ (mono_all n)

theorem stable_le {α : Type} {d : α} {g : Nat → α} (hs : ∀ n, g n ≠ d → g (n+1) = g n)
    {n m : Nat} (hle : n ≤ m) (h : g n ≠ d) : g m = g n := by
  induction hle with
  | refl => rfl
  | step _ ih => rw [hs _ (by rw [ih]; exact h), ih]

theorem matchF_le {n m : Nat} (hle : n ≤ m) {p f : V} {bs : Bs} (h : matchF n p f bs ≠ .diverge) :
    matchF m p f bs = matchF n p f bs :=
  stable_le (fun n => (mono_all n).matchF) hle h
theorem matchBound_le {n m : Nat} (hle : n ≤ m) {b f : V} {bs : Bs}
    (h : matchBound n b f bs ≠ .diverge) : matchBound m b f bs = matchBound n b f bs :=
  stable_le (fun n => (mono_all n).matchBound) hle h
theorem matchStr_le {n m : Nat} (hle : n ≤ m) {s : String} {f : V} {bs : Bs}
    (h : matchStr n s f bs ≠ .diverge) : matchStr m s f bs = matchStr n s f bs :=
  stable_le (fun n => (mono_all n).matchStr) hle h
theorem matchObj_le {n m : Nat} (hle : n ≤ m) {pm : List (String × V)} {f : V} {bs : Bs}
    (h : matchObj n pm f bs ≠ .diverge) : matchObj m pm f bs = matchObj n pm f bs :=
  stable_le (fun n => (mono_all n).matchObj) hle h
theorem matchArr_le {n m : Nat} (hle : n ≤ m) {ps : List V} {f : V} {bs : Bs}
    (h : matchArr n ps f bs ≠ .diverge) : matchArr m ps f bs = matchArr n ps f bs :=
  stable_le (fun n => (mono_all n).matchArr) hle h
theorem matchWith_le {n m : Nat} (hle : n ≤ m) {bss : List Bs} {p f : V}
    (h : matchWith n bss p f ≠ .diverge) : matchWith m bss p f = matchWith n bss p f :=
  stable_le (fun n => (mono_all n).matchWith) hle h
theorem mapcat_le {n m : Nat} (hle : n ≤ m) {bss : List Bs} {pm fm : List (String × V)}
    (h : mapcat n bss pm fm ≠ .diverge) : mapcat m bss pm fm = mapcat n bss pm fm :=
  stable_le (fun n => (mono_all n).mapcat) hle h
theorem propGather_le {n m : Nat} (hle : n ≤ m) {bss : List Bs} {k : String} {v : V}
    {fm : List (String × V)} (h : propGather n bss k v fm ≠ .diverge) :
    propGather m bss k v fm = propGather n bss k v fm :=
  stable_le (fun n => (mono_all n).propGather) hle h
theorem arrayOne_le {n m : Nat} (hle : n ≤ m) {bss : List Bs} {pat : V} {mm todo : List (Nat × V)}
    (h : arrayOne n bss pat mm todo ≠ dvg) :
    arrayOne m bss pat mm todo = arrayOne n bss pat mm todo :=
  stable_le (fun n => (mono_all n).arrayOne) hle h
theorem arraycat_le {n m : Nat} (hle : n ≤ m) {bsss : List (List Bs)} {pat : V}
    {fxas : List (List (Nat × V))} (h : arraycat n bsss pat fxas ≠ dvg) :
    arraycat m bsss pat fxas = arraycat n bsss pat fxas :=
  stable_le (fun n => (mono_all n).arraycat) hle h
theorem loopXs_le {n m : Nat} (hle : n ≤ m) {xs : List V} {fxs : List Scalar}
    {bsss : List (List Bs)} {fxas : List (List (Nat × V))} {e : Bool}
    (h : loopXs n xs fxs bsss fxas e ≠ dvg) :
    loopXs m xs fxs bsss fxas e = loopXs n xs fxs bsss fxas e :=
  stable_le (fun n => (mono_all n).loopXs) hle h

end Sheens.Total
