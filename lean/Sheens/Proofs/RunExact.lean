import Sheens.Proofs.ExactBasic

/-!
# Exact soundness (C02, second sentence) by induction on `Run`

On a linear pattern with plain variables, started from bindings in which no variable of the pattern
is bound, a run can only take the constructors `fudge`, `const`, `anon`, `fresh`, `obj*`, `kvsNil`,
`kvsPresent`, `arrNone`, `arrVar`, `loop*`; each of them is answered by a constructor of `Emb []`.
-/

namespace Sheens.Exact

/-- what a run delivers on the exact fragment -/
def ExactAt : Goal → Bs → Bs → Prop
  | .one p f, bs, r | .arm p f, bs, r =>
    p.plainPat = true → f.good = true → XPre (varsOf p) bs → XPost (varsOf p) bs r ∧ Emb [] r p f
  | .kvs pm fm, bs, r =>
    plainPatKvs pm = true → goodKvs fm = true → XPre (varsOfKvs pm) bs →
      XPost (varsOfKvs pm) bs r ∧ ObjEmb [] r pm fm
  | .arr xs L L', bs, r =>
    (∀ x ∈ xs, x.plainPat = true ∧ isVarV x = false) → (∀ x ∈ L, x.good = true) →
      XPre (varsOfList xs) bs → XPost (varsOfList xs) bs r ∧ ArrEmbX [] r xs L L'

/-- a variable of the pattern that is already bound: impossible on the exact fragment -/
theorem fresh_absurd {s : String} {bs : Bs} {x : V} {α : Prop} (hv : isVar s = true)
    (ha : isAnon s = false) (hpre : XPre (varsOf (.str s)) bs) (hl : lookup s bs = some x) : α := by
  rw [varsOf_str_var hv] at hpre
  rw [hpre.fresh s List.mem_cons_self ha] at hl
  cases hl

theorem _root_.Run.exact {g : Goal} {bs r : Bs} (h : Run g bs r) : ExactAt g bs r := by
  induction h with
  | @fudge p f bs r _ ih =>
    intro hp hg
    rw [fudge_plainPat hp, fudge_good hg] at ih
    exact ih hp hg
  | const hc => intro _ _ _; exact ⟨XPost.refl, Emb.scalar hc rfl⟩
  | anon => intro _ _ _; exact ⟨XPost.refl, Emb.var rfl (Or.inl rfl)⟩
  | ineqOld hv _ _ _ hio | ineqNew hv _ _ _ hio =>
    intro _ _ hpre
    rw [varsOf_str_var hv] at hpre
    rw [(hpre.pv _ List.mem_cons_self).2] at hio
    cases hio
  | boundVar hv ha _ hl => intro _ _ hpre; exact fresh_absurd hv ha hpre hl
  | bound hv ha _ hl => intro _ _ hpre; exact fresh_absurd hv ha hpre hl
  | @fresh s f bs hv ha _ hl =>
    intro _ _ _
    rw [varsOf_str_var hv]
    refine ⟨⟨extends_cons_fresh hl, ?_⟩, Emb.var hv (varAt_nil ha (if_pos rfl))⟩
    intro k hk
    simp only [lookup] at hk
    split at hk
    · next hks => subst hks; exact Or.inr ⟨List.mem_cons_self, ha⟩
    · exact Or.inl hk
  | objEmpty => intro _ _ _; exact ⟨XPost.refl, Emb.objEmpty⟩
  | @objProp k fm fk fv bs b v r hk hm _ _ ih1 ih2 =>
    intro hp hg hpre
    rw [varsOf_obj_single] at hpre ⊢
    have hpv' : v.plainPat = true := by simpa [V.plainPat, plainPatKvs, keyFresh] using hp
    have hfk := goodKvs_mem (fm := fm) hg (fk, fv) hm
    obtain ⟨hpost1, hs1⟩ := ih1 rfl (by simpa [V.good] using hfk.1) hpre.left
    obtain ⟨hpost2, hs2⟩ := ih2 hpv' hfk.2 (hpre.right hpost1)
    exact ⟨hpost1.seq hpost2, Emb.objProp hk hm ((Emb.var_inv hk hs1).mono hpost2.ext) hs2⟩
  | obj hne _ ih =>
    intro hp hg hpre
    obtain ⟨hpost, hs⟩ := ih hp hg hpre
    exact ⟨hpost, Emb.obj hne hs⟩
  | kvsNil => intro _ _ _; exact ⟨XPost.refl, ObjEmb.nil⟩
  | @kvsAbsent k fm v rest bs r hk _ ho _ _ =>
    intro _ _ hpre
    rw [varsOfKvs_cons hk] at hpre
    obtain ⟨s, rfl, hs⟩ := optVar_str ho
    rw [(hpre.left.pv s (hs ▸ List.mem_singleton_self s)).1] at ho
    cases ho
  | @kvsPresent k fm fv v bs b rest r hk hlk _ _ ih1 ih2 =>
    intro hp hg hpre
    rw [varsOfKvs_cons hk] at hpre ⊢
    simp only [plainPatKvs, Bool.and_eq_true] at hp
    obtain ⟨hpost1, hs1⟩ := ih1 hp.1.1 (good_lookup hg hlk) hpre.left
    obtain ⟨hpost2, hs2⟩ := ih2 hp.2 hg (hpre.right hpost1)
    exact ⟨hpost1.seq hpost2, ObjEmb.present hk hlk (Emb.mono hpost2.ext hs1) hs2⟩
  | @arrNone ps xs fa L bs r hgv _ ih =>
    intro hp hg hpre
    have hpl := plainPatList_mem (xs := ps) hp
    have hfa := goodList_mem (xs := fa) hg
    obtain ⟨hnv, hxs⟩ := getVariable_spec hgv
    simp only at hxs
    subst hxs
    obtain ⟨hpost, hs⟩ := ih (fun x hx => ⟨hpl x hx, hnv x hx⟩) hfa hpre
    exact ⟨hpost, Emb.arr hgv hs trivial⟩
  | @arrVar ps vn xs fa L bs b fact L' r hgv _ hpick _ ih1 ih2 =>
    intro hp hg hpre
    have hpl := plainPatList_mem (xs := ps) hp
    have hfa := goodList_mem (xs := fa) hg
    obtain ⟨hnv, hsv, hps⟩ := getVariable_spec hgv
    -- the variables in the order the code visits them: the other elements first, then `vn`
    have hperm : (varsOfList xs ++ varsOf (.str vn)).Perm (varsOf (.arr ps)) := by
      have := varsOfList_perm hps
      simp only [varsOfList] at this
      exact List.perm_append_comm.trans this.symm
    have hpre2 := hpre.perm hperm.symm
    obtain ⟨hpost1, hs1⟩ := ih1
      (fun x hx => ⟨hpl x (hps.mem_iff.mpr (List.mem_cons_of_mem _ hx)), hnv x hx⟩) hfa hpre2.left
    obtain ⟨hpost2, hs2⟩ := ih2 rfl (hfa fact (hs1.sub fact hpick.mem)) (hpre2.right hpost1)
    exact ⟨(hpost1.seq hpost2).sub (fun v hv => hperm.mem_iff.mp hv),
      Emb.arr hgv (hs1.mono hpost2.ext) (Or.inl ⟨fact, hpick.mem, Emb.var_inv hsv hs2⟩)⟩
  | @arrSkip ps vn xs fa L bs r hgv ho _ _ =>
    intro _ _ hpre
    obtain ⟨_, hsv, hps⟩ := getVariable_spec hgv
    have hmem : vn ∈ varsOf (.arr ps) :=
      (varsOfList_perm hps).mem_iff.mpr (by simp [varsOfList, varsOf_str_var hsv])
    rw [(hpre.pv vn hmem).1] at ho
    cases ho
  | loopNil => intro _ _ _; exact ⟨XPost.refl, ArrEmbX.nil⟩
  | @loopScalar sc x L L₁ xs L' bs r hsc hpick _ ih =>
    intro hxs hL hpre
    have hx := hxs x List.mem_cons_self
    have hc := scalar_const hsc hx.2
    have hvars : varsOfList (x :: xs) = varsOfList xs := by
      simp [varsOfList, scalarConst_vars hc]
    rw [hvars] at hpre ⊢
    obtain ⟨hpost, hs⟩ := ih (fun y hy => hxs y (List.mem_cons_of_mem _ hy))
      (fun y hy => hL y (hpick.sub y hy)) hpre
    exact ⟨hpost, ArrEmbX.cons hpick (Emb.scalar hc rfl) hs⟩
  | @loopStruct fact L L₁ x bs b xs L' r _ hpick _ _ ih1 ih2 =>
    intro hxs hL hpre
    have hx := hxs x List.mem_cons_self
    simp only [varsOfList] at hpre ⊢
    obtain ⟨hpost1, hs1⟩ := ih1 hx.1 (hL fact hpick.mem) hpre.left
    obtain ⟨hpost2, hs2⟩ := ih2 (fun y hy => hxs y (List.mem_cons_of_mem _ hy))
      (fun y hy => hL y (hpick.sub y hy)) (hpre.right hpost1)
    exact ⟨hpost1.seq hpost2, ArrEmbX.cons hpick (Emb.mono hpost2.ext hs1) hs2⟩

end Sheens.Exact
