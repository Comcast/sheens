import Sheens.Proofs.Good

/-! # `Pick` lemmas, `ArrEmb` under permutation of the pattern, `PickAll` -/

theorem Pick.comm {α} {f g : α} {l l1 l2 : List α} (h1 : Pick g l l1) (h2 : Pick f l1 l2) :
    ∃ l', Pick f l l' ∧ Pick g l' l2 := by
  induction h1 generalizing l2 with
  | here => exact ⟨_, Pick.there h2, Pick.here⟩
  | there h1 ih =>
    cases h2 with
    | here => exact ⟨_, Pick.here, h1⟩
    | there h2 =>
      obtain ⟨m, hm1, hm2⟩ := ih h2
      exact ⟨_, Pick.there hm1, Pick.there hm2⟩

theorem Pick.perm {α} {f : α} {l l' : List α} (h : Pick f l l') : l.Perm (f :: l') := by
  induction h with
  | here => exact List.Perm.refl _
  | there _ ih => exact (List.Perm.cons _ ih).trans (List.Perm.swap _ _ _)

theorem Pick.mem {α} {f : α} {l l' : List α} (h : Pick f l l') : f ∈ l :=
  h.perm.mem_iff.mpr List.mem_cons_self

theorem Pick.sub {α} {f : α} {l l' : List α} (h : Pick f l l') : ∀ x ∈ l', x ∈ l :=
  fun _ hx => h.perm.mem_iff.mpr (List.mem_cons_of_mem _ hx)

theorem Pick.snoc {α} (l : List α) (x : α) : Pick x (l ++ [x]) l := by
  induction l with
  | nil => exact Pick.here
  | cons y l ih => exact Pick.there ih

/-- the specification does not care in what order an array pattern lists its elements -/
theorem ArrEmb.perm {bs₀ r : Bs} {ps ps' : List V} (hp : ps.Perm ps') :
    ∀ {fs}, ArrEmb bs₀ r ps fs → ArrEmb bs₀ r ps' fs := by
  induction hp with
  | nil => exact id
  | cons _ _ ih =>
    intro fs h
    cases h with
    | cons hk hs hr => exact .cons hk hs (ih hr)
    | skip ho hr => exact .skip ho (ih hr)
  | swap =>
    intro fs h
    cases h with
    | cons hk₁ hs₁ hr =>
      cases hr with
      | cons hk₂ hs₂ hr =>
        obtain ⟨_, hm₁, hm₂⟩ := Pick.comm hk₁ hk₂
        exact .cons hm₁ hs₂ (.cons hm₂ hs₁ hr)
      | skip ho₂ hr => exact .skip ho₂ (.cons hk₁ hs₁ hr)
    | skip ho₁ hr =>
      cases hr with
      | cons hk₂ hs₂ hr => exact .cons hk₂ hs₂ (.skip ho₁ hr)
      | skip ho₂ hr => exact .skip ho₂ (.skip ho₁ hr)
  | trans _ _ ih₁ ih₂ => exact fun h => ih₂ (ih₁ h)

/-- the elements of the first list can be picked, one at a time, out of the second -/
inductive PickAll : List V → List V → Prop
  | nil  : PickAll [] L
  | cons : Pick x L L' → PickAll xs L' → PickAll (x :: xs) L

theorem PickAll.weaken {rem L L' : List V} {y : V} (h : PickAll rem L) (hp : Pick y L' L) :
    PickAll rem L' := by
  induction h generalizing L' with
  | nil => exact PickAll.nil
  | cons hx _ ih =>
    obtain ⟨m, hm1, hm2⟩ := Pick.comm hp hx
    exact PickAll.cons hm1 (ih hm2)

theorem PickAll.remove {a b L : List V} {x : V} (h : PickAll (a ++ x :: b) L) :
    ∃ L', Pick x L L' ∧ PickAll (a ++ b) L' := by
  induction a generalizing L with
  | nil => cases h with | cons hx hr => exact ⟨_, hx, hr⟩
  | cons y a ih =>
    cases h with
    | cons hy hr =>
      obtain ⟨L1, h1, h2⟩ := ih hr
      obtain ⟨m, hm1, hm2⟩ := Pick.comm hy h1
      exact ⟨m, hm1, PickAll.cons hm2 h2⟩

theorem PickAll.insert {a b L L' : List V} {y : V} (h : PickAll (a ++ b) L) (hp : Pick y L' L) :
    PickAll (a ++ y :: b) L' := by
  induction a generalizing L L' with
  | nil => exact PickAll.cons hp h
  | cons z a ih =>
    cases h with
    | cons hz hr =>
      obtain ⟨m, hm1, hm2⟩ := Pick.comm hp hz
      exact PickAll.cons hm1 (ih hr hm2)

theorem PickAll.pick_mem {rem L : List V} {x : V} (h : PickAll rem L) (hm : x ∈ rem) :
    ∃ L', Pick x L L' := by
  obtain ⟨a, b, rfl⟩ := List.append_of_mem hm
  obtain ⟨L', h1, _⟩ := h.remove
  exact ⟨L', h1⟩

theorem PickAll.mem {rem L : List V} {x : V} (h : PickAll rem L) (hm : x ∈ rem) : x ∈ L := by
  obtain ⟨_, h1⟩ := h.pick_mem hm
  exact h1.mem

theorem PickAll.refl (l : List V) : PickAll l l := by
  induction l with
  | nil => exact PickAll.nil
  | cons x l ih => exact PickAll.cons Pick.here ih
