import Sheens.Proofs.Permanent
import Sheens.Proofs.WalkLemmas

/-!
# A step and a walk only build states and emissions out of what they are given

For a value predicate `P` (`ValPred`): when the spec's actions and guards return `P`-values on
`P`-bindings (`PredSpec`), every state a step or a walk produces from a `P`-state and `P`-messages is
a `P`-state, and every emission is a `P`-value.  Like the "keeps permanent" argument (`Permanent.lean`,
`Props/C18.lean`), it rests on `consider_some` for the branches and on `step_cases` for the step.
First, `insertB`, `eraseB`, `permanentOf` and `restore` keep `AllBs P` (`ValPred.lean`); `AllMsgs P` is
the same for lists of messages.
-/

namespace Plain

def AllMsgs (P : V → Prop) (msgs : List V) : Prop := ∀ m ∈ msgs, P m

section
variable {P : V → Prop}

theorem allBs_insertB {k : String} {v : V} {bs : Bs} (hv : P v) (hb : AllBs P bs) :
    AllBs P (insertB k v bs) := by
  intro x hx
  rcases mem_insertB hx with hx | hx
  · subst hx; exact hv
  · exact hb x hx

theorem mem_eraseB {k : String} {bs : Bs} {x : String × V} (h : x ∈ eraseB k bs) : x ∈ bs := by
  induction bs with
  | nil => exact h
  | cons kv rest ih =>
    obtain ⟨k', v'⟩ := kv
    simp only [eraseB] at h
    split at h
    · exact List.mem_cons_of_mem _ (ih h)
    · rcases List.mem_cons.mp h with h | h
      · exact h ▸ List.mem_cons_self
      · exact List.mem_cons_of_mem _ (ih h)

theorem allBs_eraseB {k : String} {bs : Bs} (hb : AllBs P bs) : AllBs P (eraseB k bs) :=
  fun x hx => hb x (mem_eraseB hx)

theorem allBs_permanentOf {bs : Bs} (hb : AllBs P bs) : AllBs P (permanentOf bs) :=
  fun x hx => hb x (List.mem_filter.mp hx).1

theorem allBs_restore {perm b : Bs} (hp : AllBs P perm) (hb : AllBs P b) :
    AllBs P (restore perm b) :=
  List.foldlRecOn perm _ hb fun _ h kv hkv => allBs_insertB (hp kv hkv) h

theorem allMsgs_nil : AllMsgs P [] := fun _ h => by cases h

theorem allMsgs_snoc {em : List V} {v : V} (he : AllMsgs P em) (hv : P v) : AllMsgs P (em ++ [v]) :=
  List.forall_mem_append.mpr ⟨he, List.forall_mem_singleton.mpr hv⟩

end

section
variable (P : V → Prop)

/-- nil bindings count as the empty map -/
def PredState (st : State) : Prop := AllBs P (copyB st.bs)

def PredAction (a : ActionF) : Prop :=
  ∀ bs, AllBs P (copyB bs) → ∀ bo em, (a bs).exe = some (bo, em) → AllMsgs P em ∧ AllBs P (copyB bo)

def PredNode (n : Node) : Prop :=
  (∀ a, n.action = some a → PredAction P a) ∧
  (∀ br, n.branches = some br → ∀ b ∈ br.branches, ∀ g, b.guard = some g → PredAction P g)

def PredSpec (s : Spec) : Prop := ∀ name n, (name, n) ∈ s.nodes → PredNode P n

def PredStride (sd : Stride) : Prop := (∀ t, sd.to = some t → PredState P t) ∧ AllMsgs P sd.emitted
end

section
variable {P : V → Prop}

theorem allBs_copyB (o : Option Bs) : (∀ b, o = some b → AllBs P b) ↔ AllBs P (copyB o) := by
  cases o with
  | none => exact ⟨fun _ => allBs_nil, fun _ b h => by cases h⟩
  | some b => exact ⟨fun h => h b rfl, fun h b hb => by cases hb; exact h⟩

theorem predState_copy {t : State} (h : PredState P t) : PredState P (stateCopy t) := h

theorem mem_of_findNode {k : String} {n : Node} {nodes : List (String × Node)}
    (h : findNode k nodes = some n) : (k, n) ∈ nodes := by
  induction nodes with
  | nil => cases h
  | cons kn rest ih =>
    obtain ⟨k', n'⟩ := kn
    simp only [findNode] at h
    split at h
    · next heq => cases h; subst heq; exact List.mem_cons_self
    · exact List.mem_cons_of_mem _ (ih h)

theorem execWrap_pred {a : ActionF} (ha : PredAction P a) : PredAction P (execWrap a) := by
  intro bs hbs bo em hx
  unfold execWrap at hx
  simp only at hx
  split at hx
  · cases hx; exact ⟨allMsgs_nil, allBs_nil⟩
  · next em' h0 =>
    cases hx
    exact ⟨(ha bs hbs _ _ h0).1, allBs_nil⟩
  · next b0 em' h0 =>
    cases hx
    obtain ⟨h1, h2⟩ := ha bs hbs _ _ h0
    exact ⟨h1, allBs_restore (allBs_permanentOf hbs) h2⟩

theorem exeOut_pred {a : ActionF} (ha : PredAction P a) {bs : Option Bs}
    (hbs : AllBs P (copyB bs)) :
    AllBs P (exeOut (execWrap a bs).exe).1 ∧ AllMsgs P (exeOut (execWrap a bs).exe).2 := by
  have h := execWrap_pred ha bs hbs
  generalize (execWrap a bs).exe = x at h
  rcases x with _ | ⟨_ | b, em⟩
  · exact ⟨allBs_nil, allMsgs_nil⟩
  · exact ⟨allBs_nil, (h _ _ rfl).1⟩
  · exact ⟨(h _ _ rfl).2, (h _ _ rfl).1⟩

theorem consider_pred (hP : ValPred P) {b : Option Branches} {bs : Option Bs}
    {pending : Option V} {t : State}
    (hg : ∀ br, b = some br → ∀ x ∈ br.branches, ∀ g, x.guard = some g → PredAction P g)
    (hp : ∀ m, pending = some m → P m) (hbs : AllBs P (copyB bs))
    (h : (consider b bs pending).1 = some t) : PredState P t := by
  obtain ⟨br, x, against, cand, c, rfl, hx, ha, h1, h2, rfl⟩ := consider_some h
  have hag : P against := by
    rcases ha with ha | rfl
    · exact hp _ ha
    · exact (hP.obj _).mpr hbs
  have hcand : AllBs P (copyB cand) := by
    cases h1 with
    | asis => exact hbs
    | matched _ hm hr => exact matchF_pred hP hag hbs hm _ hr
  cases h2 with
  | unguarded => exact hcand
  | guarded hgd hx' => exact (execWrap_pred (hg br rfl x hx _ hgd) cand hcand _ _ hx').2

theorem allBs_actErrBs (hP : ValPred P) {bs : Option Bs} (h : AllBs P (copyB bs)) (e : String) :
    AllBs P (actErrBs e bs) :=
  allBs_insertB (hP.str _) (allBs_insertB (hP.str _) h)

theorem allBs_noBranchBs (hP : ValPred P) {st : State} {bs : Option Bs}
    (hst : AllBs P (copyB st.bs)) (h : AllBs P (copyB bs)) : AllBs P (noBranchBs st bs) :=
  allBs_insertB ((hP.obj _).mpr hst) (allBs_insertB (hP.str _) (allBs_insertB (hP.str _) h))

theorem stepRest_pred (hP : ValPred P) {st : State} {n : Node} {bs : Option Bs} {em : List V}
    {pending : Option V} {sd : Stride} (hn : PredNode P n)
    (hst : AllBs P (copyB st.bs)) (hbs : AllBs P (copyB bs)) (hem : AllMsgs P em)
    (hp : ∀ m, pending = some m → P m)
    (h : (stepRest st n bs em pending).stride = some sd) : PredStride P sd := by
  refine ⟨fun t ht => ?_, ?_⟩
  · rcases stepRest_to h ht with ⟨t', ht', rfl⟩ | rfl
    · exact predState_copy (consider_pred hP hn.2 hp hbs ht')
    · exact allBs_noBranchBs hP hst hbs
  · rw [stepRest_eq] at h
    cases h
    exact hem

theorem step_pred (hP : ValPred P) {s : Spec} (hs : PredSpec P s) {st : State}
    {pending : Option V} (hst : PredState P st) (hp : ∀ m, pending = some m → P m)
    {sd : Stride} (h : (step s st pending).stride = some sd) : PredStride P sd := by
  cases step_cases s st with
  | nostride r hr h' => rw [h', hr] at h; cases h
  | errNode n a e hn ha he h' =>
    rw [h'] at h
    cases h
    obtain ⟨_, h2⟩ := exeOut_pred ((hs _ n (mem_of_findNode hn)).1 a ha) hst
    exact ⟨fun t ht => by cases ht; exact allBs_actErrBs hP hst e, h2⟩
  | rest n bs em _ hn he h' =>
    rw [h'] at h
    have hN := hs _ n (mem_of_findNode hn)
    have : AllBs P (copyB bs) ∧ AllMsgs P em := by
      cases he with
      | noaction => exact ⟨hst, allMsgs_nil⟩
      | ok a ha => exact exeOut_pred (hN.1 a ha) hst
      | errBranches a e ha => exact ⟨allBs_actErrBs hP hst e, (exeOut_pred (hN.1 a ha) hst).2⟩
    exact stepRest_pred hP hN hst this.1 this.2 hp h

theorem walkStride_pred (hP : ValPred P) {s : Spec} (hs : PredSpec P s) {st : State}
    {pending : Option V} (hst : PredState P st) (hp : ∀ m, pending = some m → P m) :
    PredStride P (walkStride s st pending) := by
  have hbase : PredStride P (baseStride st (step s st pending).stride) := by
    unfold baseStride
    split
    · next x hx => exact step_pred hP hs hst hp hx
    · exact ⟨fun t ht => (by cases ht), allMsgs_nil⟩
  rw [walkStride_eq]
  split
  · exact hbase
  · split
    · exact hbase
    · refine ⟨fun t ht => ?_, hbase.2⟩
      cases ht
      exact allBs_insertB ((hP.obj _).mpr hst)
        (allBs_insertB (hP.str _) (allBs_insertB (hP.str _) hst))

theorem pendingOf_mem {p : List V} {m : V} (h : pendingOf p = some m) : m ∈ p := by
  unfold pendingOf at h
  split at h
  · cases h
  · cases h
  · cases h; exact List.mem_cons_self

theorem walk_pred (hP : ValPred P) {s : Spec} (hs : PredSpec P s) {st : State} {msgs : List V}
    (l : Option Int) (bp : State → Bool) (hst : PredState P st) (hm : AllMsgs P msgs) :
    ∀ sd ∈ (walk s st msgs l bp).strides, PredStride P sd := by
  have hstride : ∀ st p, PredState P st → AllMsgs P p →
      PredStride P (walkStride s st (pendingOf p)) :=
    fun st p hst hp => walkStride_pred hP hs hst (fun m hm => hp m (pendingOf_mem hm))
  refine W_ind s bp
    (P := fun _ st p w => PredState P st → AllMsgs P p → ∀ sd ∈ w.strides, PredStride P sd)
    ?_ ?_ ?_ ?_ _ st msgs hst hm
  · intro st p _ _ sd hsd; cases hsd
  · intro i st p _ _ _ sd hsd; cases hsd
  · intro i st p _ _ _ hst hp sd hsd
    simp at hsd; subst hsd; exact hstride st p hst hp
  · intro i st p w _ ih hst hp sd hsd
    rcases List.mem_cons.mp hsd with hsd | hsd
    · subst hsd; exact hstride st p hst hp
    · refine ih ?_ (fun m hm => hp m (after_mem _ _ m hm)) sd hsd
      cases ht : (walkStride s st (pendingOf p)).to with
      | none => exact hst
      | some t => exact (hstride st p hst hp).1 t ht

theorem lastTo_mem {sds : List Stride} {t : State} (h : lastTo sds = some t) :
    ∃ sd ∈ sds, sd.to = some t := by
  induction sds with
  | nil => cases h
  | cons sd rest ih =>
    simp only [lastTo] at h
    split at h
    · next t' ht' =>
      cases h
      obtain ⟨x, hx, hxt⟩ := ih ht'
      exact ⟨x, List.mem_cons_of_mem _ hx, hxt⟩
    · exact ⟨sd, List.mem_cons_self, h⟩

theorem finalState_pred (hP : ValPred P) {s : Spec} (hs : PredSpec P s) {st : State}
    {msgs : List V} (l : Option Int) (bp : State → Bool) (hst : PredState P st)
    (hm : AllMsgs P msgs) : PredState P (finalState st (walk s st msgs l bp)) := by
  unfold finalState
  cases h : lastTo (walk s st msgs l bp).strides with
  | none => exact hst
  | some t =>
    obtain ⟨sd, hsd, hto⟩ := lastTo_mem h
    exact (walk_pred hP hs l bp hst hm sd hsd).1 t hto

end

end Plain
