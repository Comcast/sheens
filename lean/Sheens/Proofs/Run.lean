import Sheens.MatchSpec

/-!
# One result of the matcher, as a relation

`Run g bs r`: `r` is one of the binding sets the matcher can return for the goal `g` when started
from `bs`.  The goals are the recursion points of `match.go` seen from a single result:
`one p f` is `Matcher.match` (`matchF`), `arm p f` the type switch after `fudge`, `kvs pm fm`
the key loop of `mapcatMatch` (`mapcat`), and `arr xs L L'` the loop over the non-variable elements
`xs` of an array pattern, taking distinct message elements out of `L` and leaving `L'`.

Every constructor is one path through `match.go` and carries the tests made on it.  Fuel, result
lists, early exits and the index bookkeeping of `arraycatMatch` do not appear: `matchF_run`
(`RunOf.lean`) relates the two once, and whatever holds of *every result* of the matcher is proved
by induction on `Run`.  It is one family indexed by `Goal` and not a mutual one, so that the
`induction` tactic applies.  The implicit arguments of a constructor are listed in the order in
which proofs name them by position (`| @arrVar ps vn xs …`).
-/

inductive Goal where
  | one (p f : V)
  | arm (p f : V)
  | kvs (pm fm : List (String × V))
  | arr (xs L L' : List V)

inductive Run : Goal → Bs → Bs → Prop
  | fudge {p f bs r} : Run (.arm (fudge p) (fudge f)) bs r → Run (.one p f) bs r
  /-- `null`, booleans, numbers and strings that are not variables -/
  | const {p bs} : isScalarConst p = true → Run (.arm p p) bs bs
  | anon {f bs} : Run (.arm (.str "?") f) bs bs
  /-- `inequal`, the counterpart `vv` already bound to the message value -/
  | ineqOld {s bs x b f a op vv c} : isVar s = true → lookup s bs = some x → asNum x = some b →
      asNum f = some a → ineqOf s = some (op, vv) → op.rel a b = true → lookup vv bs = some c →
      asNum c = some a → Run (.arm (.str s) f) bs bs
  /-- `inequal`, the counterpart gets bound -/
  | ineqNew {s bs x b f a op vv} : isVar s = true → lookup s bs = some x → asNum x = some b →
      asNum f = some a → ineqOf s = some (op, vv) → op.rel a b = true → lookup vv bs = none →
      Run (.arm (.str s) f) bs ((vv, .num a) :: bs)
  /-- a bound value that looks like a variable is compared as a constant -/
  | boundVar {s t bs} : isVar s = true → isAnon s = false → inequal (.str t) bs s = none →
      lookup s bs = some (.str t) → isVar t = true → Run (.arm (.str s) (.str t)) bs bs
  /-- any other bound value is re-used as a pattern -/
  | bound {s f bs b r} : isVar s = true → isAnon s = false → inequal f bs s = none →
      lookup s bs = some b → (∀ t, b = .str t → isVar t = false) → Run (.one b f) bs r →
      Run (.arm (.str s) f) bs r
  | fresh {s f bs} : isVar s = true → isAnon s = false → inequal f bs s = none →
      lookup s bs = none → Run (.arm (.str s) f) bs ((s, f) :: bs)
  | objEmpty {fm bs} : Run (.arm (.obj []) (.obj fm)) bs bs
  /-- property variable: the key against one of the message's keys, then the value -/
  | objProp {k fm fk fv bs b v r} : isVar k = true → (fk, fv) ∈ fm →
      Run (.one (.str k) (.str fk)) bs b → Run (.one v fv) b r →
      Run (.arm (.obj [(k, v)]) (.obj fm)) bs r
  | obj {pm fm bs r} : pm ≠ [] → Run (.kvs pm fm) bs r → Run (.arm (.obj pm) (.obj fm)) bs r
  | kvsNil {fm bs} : Run (.kvs [] fm) bs bs
  | kvsAbsent {k fm v rest bs r} : isVar k = false → lookup k fm = none → isOptVar v = true →
      Run (.kvs rest fm) bs r → Run (.kvs ((k, v) :: rest) fm) bs r
  | kvsPresent {k fm fv v bs b rest r} : isVar k = false → lookup k fm = some fv →
      Run (.one v fv) bs b → Run (.kvs rest fm) b r → Run (.kvs ((k, v) :: rest) fm) bs r
  | arrNone {ps xs fa L bs r} : getVariable ps none [] = .ok (none, xs) →
      Run (.arr xs fa L) bs r → Run (.arm (.arr ps) (.arr fa)) bs r
  /-- the variable of an array pattern takes one of the elements the others left over -/
  | arrVar {ps vn xs fa L bs b fact L' r} : getVariable ps none [] = .ok (some vn, xs) →
      Run (.arr xs fa L) bs b → Pick fact L L' → Run (.one (.str vn) fact) b r →
      Run (.arm (.arr ps) (.arr fa)) bs r
  | arrSkip {ps vn xs fa L bs r} : getVariable ps none [] = .ok (some vn, xs) →
      isOptVar (.str vn) = true → Run (.arr xs fa L) bs r → Run (.arm (.arr ps) (.arr fa)) bs r
  | loopNil {L bs} : Run (.arr [] L L) bs bs
  /-- a scalar element must be among the message's elements -/
  | loopScalar {sc x L L₁ xs L' bs r} : x.scalar? = some sc → Pick x L L₁ →
      Run (.arr xs L₁ L') bs r → Run (.arr (x :: xs) L L') bs r
  | loopStruct {fact L L₁ x bs b xs L' r} : x.scalar? = none → Pick fact L L₁ →
      Run (.one x fact) bs b → Run (.arr xs L₁ L') b r → Run (.arr (x :: xs) L L') bs r
