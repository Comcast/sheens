import Sheens.Expect

/-!
# `Expect.runStep` characterised: a step completes iff it reads a chunk `GChunk`

An exact invariant for `Expect.offer` / `Expect.runStep` (a flag is set **iff** the output is expected
and some consumed line accepts it), and the characterisation of a completed step by a declarative
chunk predicate `GChunk outs seen chunk`, generalised over the lines `seen` already consumed by the
step.  `StepChunk st chunk` of `C19Exact` is `GChunk st.outputs [] chunk` (definitionally, field by
field); the soundness statements of `C19` read two of its fields.  `accepts` is treated opaquely.

The run is compared with `ChunkOK`, which says of each position of the chunk what the step needs of the
event there (`EvOK`); `GChunk`'s five conditions are that, read off all positions at once
(`gchunk_iff_chunkOK`, no induction).
-/

namespace Expect

/-- what one offered message does to one output: the new flag, and 1 if newly satisfied -/
def offer1 (msg : V) (o : Output) (s : Bool) : Except String (Bool × Nat) :=
  if s then .ok (true, 0)
  else match accepts o msg with
    | .error e => .error e
    | .ok false => .ok (false, 0)
    | .ok true => if o.inverted then .error "undesired output" else .ok (true, 1)

theorem offer_cons (msg : V) (o : Output) (os : List Output) (s : Bool) (ss : List Bool) :
    offer msg (o :: os) (s :: ss) =
      match offer1 msg o s with
      | .error e => .error e
      | .ok (s', k1) =>
        match offer msg os ss with
        | .ok (fl, k) => .ok (s' :: fl, k + k1)
        | .error e => .error e := by
  rw [offer]
  unfold offer1
  cases s
  · cases accepts o msg with
    | error e => rfl
    | ok a => cases a <;> cases o.inverted <;> rfl
  · cases offer msg os ss <;> rfl

/-- 1 for an expected output that is not yet satisfied -/
def out1 (o : Output) (s : Bool) : Nat := if (!o.inverted && !s) = true then 1 else 0

/-- number of outstanding (expected, not yet satisfied) outputs -/
def cnt : List Output → List Bool → Nat
  | [], _ => 0
  | _ :: _, [] => 0
  | o :: os, s :: ss => out1 o s + cnt os ss

theorem cnt_init (outs : List Output) :
    cnt outs (outs.map (fun _ => false)) = (outs.filter (fun o => !o.inverted)).length := by
  induction outs with
  | nil => rfl
  | cons o os ih =>
    rw [List.map_cons, cnt, ih, List.filter_cons, out1]
    cases o.inverted
    · exact Nat.add_comm 1 _
    · exact Nat.zero_add _

end Expect

namespace Sheens.C19

open Expect

def linesOf (evs : List Event) : List V :=
  evs.filterMap (fun e => match e with | .line v => some v | _ => none)

/-- some line accepts the output (`SatisfiedBy` of `C19Exact`) -/
def Sat (o : Output) (ls : List V) : Prop := ∃ l ∈ ls, accepts o l = .ok true

/-- every expected output is accepted by some line (`Completes` of `C19Exact`, on the output list) -/
def Comp (outs : List Output) (ls : List V) : Prop :=
  ∀ o ∈ outs, o.inverted = false → Sat o ls

/-- the line gets past the output: a forbidden output does not accept it, and an outstanding one
    (forbidden, or not yet accepted by a line of `seen`) does not err on it -/
def LineOK1 (seen : List V) (v : V) (o : Output) : Prop :=
  (o.inverted = true → accepts o v ≠ .ok true) ∧
  ((o.inverted = true ∨ ¬ Sat o seen) → ∀ e, accepts o v ≠ .error e)

def LineOK (outs : List Output) (seen : List V) (v : V) : Prop := ∀ o ∈ outs, LineOK1 seen v o

theorem linesOf_noise (evs : List Event) : linesOf (.noise :: evs) = linesOf evs := rfl
theorem linesOf_line (v : V) (evs : List Event) : linesOf (.line v :: evs) = v :: linesOf evs := rfl
theorem linesOf_append (a b : List Event) : linesOf (a ++ b) = linesOf a ++ linesOf b := by
  simp [linesOf, List.filterMap_append]

theorem Sat.nil (o : Output) : ¬ Sat o [] := by
  rintro ⟨l, hl, _⟩; cases hl

theorem Sat.append_single {o : Output} {seen : List V} {v : V} :
    Sat o (seen ++ [v]) ↔ Sat o seen ∨ accepts o v = .ok true := by
  simp only [Sat, List.mem_append, List.mem_singleton, or_and_right, exists_or, exists_eq_left]

/-- the flag of one output is exact: set iff the output is expected and accepted by a consumed line -/
def Flag (seen : List V) (o : Output) (s : Bool) : Prop := s = true ↔ (o.inverted = false ∧ Sat o seen)

inductive Inv (seen : List V) : List Output → List Bool → Prop
  | nil : Inv seen [] []
  | cons {o : Output} {s : Bool} {os : List Output} {ss : List Bool} :
      Flag seen o s → Inv seen os ss → Inv seen (o :: os) (s :: ss)

theorem Inv.init (outs : List Output) : Inv [] outs (outs.map (fun _ => false)) := by
  induction outs with
  | nil => exact .nil
  | cons o os ih => exact .cons ⟨nofun, fun h => (Sat.nil o h.2).elim⟩ ih

variable {outs : List Output} {seen : List V} {sat : List Bool} {o : Output} {s : Bool} {chunk : List Event}

theorem Flag.out1_zero_iff (h : Flag seen o s) :
    out1 o s = 0 ↔ (o.inverted = false → Sat o seen) := by
  unfold Flag at h
  unfold out1
  cases hi : o.inverted <;> cases s <;> simp [hi] at h ⊢ <;> exact h

theorem Inv.cnt_zero_iff (h : Inv seen outs sat) : cnt outs sat = 0 ↔ Comp outs seen := by
  induction h with
  | nil => exact ⟨fun _ _ => nofun, fun _ => rfl⟩
  | cons h1 _ ih =>
    rw [cnt, Nat.add_eq_zero_iff, h1.out1_zero_iff, ih]
    exact (List.forall_mem_cons (p := fun o => o.inverted = false → Sat o seen)).symm

/-- One output, one line, given an exact flag: `offer1` fails exactly when the line does not get past
    the output; otherwise it keeps the flag exact and reports whether the output was newly satisfied. -/
theorem offer1_spec (v : V) (h : Flag seen o s) :
    match offer1 v o s with
    | .error _ => ¬ LineOK1 seen v o
    | .ok (s', k) => Flag (seen ++ [v]) o s' ∧ out1 o s' + k = out1 o s ∧ LineOK1 seen v o := by
  unfold Flag at h ⊢
  unfold LineOK1 out1 offer1
  simp only [Sat.append_single]
  cases s with
  | true =>
    obtain ⟨hi, hs⟩ := h.mp rfl
    simp [hi, hs]
  | false =>
    have hs : o.inverted = false → ¬ Sat o seen := fun hi hs => nomatch h.mpr ⟨hi, hs⟩
    cases hacc : accepts o v with
    | error e =>
      cases hi : o.inverted
      · simpa using hs hi
      · simp
    | ok a =>
      cases a with
      | false => simpa using hs
      | true => cases o.inverted <;> simp

/-- `offer` under the exact invariant, likewise -/
theorem offer_spec (v : V) (h : Inv seen outs sat) :
    match offer v outs sat with
    | .error _ => ¬ LineOK outs seen v
    | .ok (sat', k) => Inv (seen ++ [v]) outs sat' ∧ cnt outs sat' + k = cnt outs sat ∧ LineOK outs seen v := by
  induction h with
  | nil => exact ⟨.nil, rfl, fun _ => nofun⟩
  | @cons o s os ss h1 _ ih =>
    have h1 := offer1_spec v h1
    rw [offer_cons]
    simp only [LineOK, List.forall_mem_cons]
    cases h1' : offer1 v o s with
    | error e =>
      rw [h1'] at h1
      exact fun hh => h1 hh.1
    | ok r1 =>
      rw [h1'] at h1
      obtain ⟨hf, hc, hO⟩ := h1
      cases hr : offer v os ss with
      | error e =>
        rw [hr] at ih
        exact fun hh => ih hh.2
      | ok r =>
        rw [hr] at ih
        obtain ⟨ihI, ihC, ihO⟩ := ih
        refine ⟨.cons hf ihI, ?_, hO, ihO⟩
        rw [cnt, cnt, ← hc, ← ihC, Nat.add_comm r.2]
        exact Nat.add_add_add_comm ..

/-- the chunk a step reads and passes on, after having consumed the lines `seen` (without completing) -/
structure GChunk (outs : List Output) (seen : List V) (chunk : List Event) : Prop where
  noEnd : ∀ e ∈ chunk, e ≠ .timeout ∧ e ≠ .eof
  completes : ∃ pre v, chunk = pre ++ [.line v] ∧ Comp outs (seen ++ linesOf chunk)
  minimal : ∀ pre v rest, chunk = pre ++ [.line v] ++ rest → rest ≠ [] →
              ¬ Comp outs (seen ++ linesOf (pre ++ [.line v]))
  noForbidden : ∀ o ∈ outs, o.inverted = true → ∀ l ∈ linesOf chunk, accepts o l ≠ .ok true
  noError : ∀ pre l post, linesOf chunk = pre ++ l :: post → ∀ o ∈ outs,
              (o.inverted = true ∨ ¬ Sat o (seen ++ pre)) → ∀ e, accepts o l ≠ .error e

/-! ## the chunk, position by position

The five conditions of `GChunk` all say the same of every position of the chunk: the event there is
one the step gets past, given the lines consumed before it and whether anything follows. -/

/-- what the step needs of one event of its chunk: `seen` are the lines consumed before it, `todo` is
    the rest of the chunk -/
def EvOK (outs : List Output) (seen : List V) (e : Event) (todo : List Event) : Prop :=
  match e with
  | .noise => todo ≠ []
  | .line v => LineOK outs seen v ∧ (Comp outs (seen ++ [v]) ↔ todo = [])
  | _ => False

def ChunkOK (outs : List Output) (seen : List V) (chunk : List Event) : Prop :=
  chunk ≠ [] ∧ ∀ done e todo, chunk = done ++ e :: todo → EvOK outs (seen ++ linesOf done) e todo

theorem chunkOK_cons {e : Event} {c : List Event} :
    ChunkOK outs seen (e :: c) ↔ EvOK outs seen e c ∧ (c ≠ [] → ChunkOK outs (seen ++ linesOf [e]) c) := by
  constructor
  · intro h
    refine ⟨List.append_nil seen ▸ h.2 [] e c rfl, fun hne => ⟨hne, fun done e' todo hc => ?_⟩⟩
    have := h.2 (e :: done) e' todo (by rw [hc]; rfl)
    rwa [← List.singleton_append, linesOf_append, ← List.append_assoc] at this
  · intro h
    refine ⟨List.cons_ne_nil _ _, fun done e' todo hc => ?_⟩
    cases done with
    | nil =>
      obtain ⟨rfl, rfl⟩ := List.cons.inj hc
      exact (List.append_nil seen).symm ▸ h.1
    | cons d done =>
      obtain ⟨rfl, rfl⟩ := List.cons.inj hc
      have := (h.2 (List.append_ne_nil_of_right_ne_nil _ (List.cons_ne_nil _ _))).2 done e' todo rfl
      rwa [← List.singleton_append, linesOf_append, ← List.append_assoc]

/-- a line of the event list, with the lines before it, is a line event of the list, with the events before it -/
theorem linesOf_split {pre post : List V} {l : V}
    (h : linesOf chunk = pre ++ l :: post) :
    ∃ done todo, chunk = done ++ .line l :: todo ∧ linesOf done = pre := by
  obtain ⟨c1, c2, rfl, rfl, h2⟩ := List.filterMap_eq_append_iff.mp h
  obtain ⟨n, a, c3, rfl, hn, ha, -⟩ := List.filterMap_eq_cons_iff.mp h2
  refine ⟨c1 ++ n, c3, ?_, ?_⟩
  · cases a <;> simp at ha
    rw [ha, List.append_assoc]
  · rw [linesOf_append]
    exact List.append_right_eq_self.mpr (List.filterMap_eq_nil_iff.mpr hn)

theorem gchunk_iff_chunkOK : GChunk outs seen chunk ↔ ChunkOK outs seen chunk := by
  constructor
  · intro h
    obtain ⟨pre, v', hlast, hcomp⟩ := h.completes
    refine ⟨by rw [hlast]; simp, fun done e todo hc => ?_⟩
    have hl : linesOf chunk = linesOf done ++ linesOf (e :: todo) := by rw [hc, linesOf_append]
    cases e with
    | timeout => exact (h.noEnd _ (hc ▸ List.mem_append_cons_self)).1 rfl
    | eof => exact (h.noEnd _ (hc ▸ List.mem_append_cons_self)).2 rfl
    | noise =>
      rintro rfl
      exact nomatch (List.append_inj_right' (hc.symm.trans hlast) rfl)
    | line v =>
      rw [linesOf_line] at hl
      refine ⟨fun o ho => ⟨fun hi => h.noForbidden o ho hi v (hl ▸ List.mem_append_cons_self),
        h.noError _ v _ hl o ho⟩, fun hc' => ?_, ?_⟩
      · false_or_by_contra
        next hne =>
        refine h.minimal done v todo (by rw [hc]; simp) hne ?_
        rwa [linesOf_append, ← List.append_assoc]
      · rintro rfl
        rwa [hl, ← List.append_assoc] at hcomp
  · intro h
    refine ⟨fun e he => ?_, ?_, fun pre v rest hc hr hcomp => ?_, fun o ho hi l hl => ?_,
      fun pre l post hc o ho => ?_⟩
    · obtain ⟨done, todo, hc⟩ := List.append_of_mem he
      have := h.2 done e todo hc
      cases e with
      | noise | line _ => exact ⟨nofun, nofun⟩
      | _ => exact this.elim
    · obtain ⟨pre, e, hc⟩ : ∃ pre e, chunk = pre ++ [e] := ⟨_, _, (List.dropLast_concat_getLast h.1).symm⟩
      have := h.2 pre e [] hc
      cases e with
      | line v =>
        refine ⟨pre, v, hc, ?_⟩
        rw [hc, linesOf_append, ← List.append_assoc]
        exact this.2.mpr rfl
      | noise => exact absurd rfl this
      | _ => exact this.elim
    · refine hr ((h.2 pre (.line v) rest (by rw [hc]; simp)).2.mp ?_)
      rwa [linesOf_append, ← List.append_assoc] at hcomp
    · obtain ⟨pre, post, hc⟩ := List.append_of_mem hl
      obtain ⟨done, todo, hc', -⟩ := linesOf_split hc
      exact ((h.2 done _ todo hc').1 o ho).1 hi
    · obtain ⟨done, todo, hc', rfl⟩ := linesOf_split hc
      exact ((h.2 done _ todo hc').1 o ho).2

/-- the count of outstanding outputs after a line, as `runStep` computes it -/
theorem need_step {need : Int} {c c' k : Nat} (hn : need = c) (hc : c' + k = c) : need - k = c' := by
  rw [hn, ← hc, Int.natCast_add, Int.add_sub_cancel]

/-- (←) on any chunk satisfying the conditions, the step completes exactly at the end of the chunk -/
theorem runStep_of_chunk {rest : List Event} {need : Int} (hI : Inv seen outs sat)
    (hn : need = (cnt outs sat : Int)) (hC : ChunkOK outs seen chunk) :
    runStep outs sat need (chunk ++ rest) = .ok rest := by
  induction chunk generalizing seen sat need with
  | nil => exact absurd rfl hC.1
  | cons e chunk ih =>
    obtain ⟨he, hC⟩ := chunkOK_cons.mp hC
    cases e with
    | timeout => exact he.elim
    | eof => exact he.elim
    | noise =>
      simp only [List.cons_append, runStep]
      exact ih hI hn (List.append_nil seen ▸ hC he)
    | line v =>
      obtain ⟨hO, hdone⟩ := he
      have hoff := offer_spec v hI
      simp only [List.cons_append, runStep]
      split at hoff
      · exact absurd hO hoff
      · next sat' k heq =>
        obtain ⟨hI', hcnt, -⟩ := hoff
        simp only [heq, need_step hn hcnt]
        by_cases hnil : chunk = []
        · subst hnil
          rw [hI'.cnt_zero_iff.mpr (hdone.mpr rfl)]
          rfl
        · have h0 : cnt outs sat' ≠ 0 := fun h => hnil (hdone.mp (hI'.cnt_zero_iff.mp h))
          rw [if_neg (by simpa using h0)]
          exact ih hI' rfl (hC hnil)

/-- (→) a completed step has read a chunk satisfying the conditions -/
theorem runStep_chunk {rest evs : List Event} {need : Int} (hI : Inv seen outs sat) (hn : need = (cnt outs sat : Int))
    (h : runStep outs sat need evs = .ok rest) : ∃ chunk, evs = chunk ++ rest ∧ ChunkOK outs seen chunk := by
  induction evs generalizing seen sat need with
  | nil => simp [runStep] at h
  | cons e evs ih =>
    cases e with
    | timeout => simp [runStep] at h
    | eof => simp [runStep] at h
    | noise =>
      simp only [runStep] at h
      obtain ⟨chunk, he, hC⟩ := ih hI hn h
      exact ⟨.noise :: chunk, by rw [he]; rfl, chunkOK_cons.mpr ⟨hC.1, fun _ => (List.append_nil seen).symm ▸ hC⟩⟩
    | line v =>
      simp only [runStep] at h
      have hoff := offer_spec v hI
      split at hoff
      · next heq => simp [heq] at h
      · next sat' k heq =>
        obtain ⟨hI', hcnt, hO⟩ := hoff
        simp only [heq, need_step hn hcnt] at h
        by_cases h0 : cnt outs sat' = 0
        · rw [h0] at h
          cases h
          exact ⟨[.line v], rfl,
            chunkOK_cons.mpr ⟨⟨hO, iff_of_true (hI'.cnt_zero_iff.mp h0) rfl⟩, fun h => absurd rfl h⟩⟩
        · rw [if_neg (by simpa using h0)] at h
          obtain ⟨chunk, he, hC⟩ := ih hI' rfl h
          exact ⟨.line v :: chunk, by rw [he]; rfl,
            chunkOK_cons.mpr ⟨⟨hO, iff_of_false (mt hI'.cnt_zero_iff.mpr h0) hC.1⟩, fun _ => hC⟩⟩

/-- one step, from its initial state, completes with `rest` remaining **iff** the stream is a chunk
    satisfying the conditions followed by `rest` -/
theorem runStep_ok_iff (outs : List Output) (evs rest : List Event) :
    runStep outs (outs.map (fun _ => false)) (needOf outs) evs = .ok rest ↔
      ∃ chunk, evs = chunk ++ rest ∧ GChunk outs [] chunk := by
  have hn : needOf outs = (cnt outs (outs.map (fun _ => false)) : Int) := by
    rw [cnt_init]; rfl
  simp only [gchunk_iff_chunkOK]
  constructor
  · exact runStep_chunk (Inv.init outs) hn
  · rintro ⟨chunk, rfl, hC⟩
    exact runStep_of_chunk (Inv.init outs) hn hC

/-- the session passes its first step iff the stream starts with a chunk of that step and the session
    of the remaining steps passes on what follows -/
theorem verdict_cons_pass_iff (st : IOStep) (more : List IOStep) (evs : List Event) :
    verdict (st :: more) evs = .pass ↔
      ∃ chunk rest, evs = chunk ++ rest ∧ GChunk st.outputs [] chunk ∧ verdict more rest = .pass := by
  rw [verdict]
  constructor
  · intro h
    split at h
    · cases h
    · next rest hr =>
      obtain ⟨chunk, he, hc⟩ := (runStep_ok_iff ..).mp hr
      exact ⟨chunk, rest, he, hc, h⟩
  · rintro ⟨chunk, rest, rfl, hc, hv⟩
    rw [(runStep_ok_iff ..).mpr ⟨chunk, rfl, hc⟩]
    exact hv

end Sheens.C19
