import Sheens.Timers

/-!
# Timers: basic lemmas, the inductive invariant, and its preservation
-/

namespace Timers

variable {id : Tid} {g : Gen} {t : List (Tid × Gen)}

theorem lookupT_some_mem (h : lookupT id t = some g) : (id, g) ∈ t := by
  induction t with
  | nil => cases h
  | cons e r ih =>
    rw [lookupT] at h
    split at h
    next hi => cases h; exact hi ▸ List.mem_cons_self
    next => exact List.mem_cons_of_mem _ (ih h)

theorem lookupT_none_iff : lookupT id t = none ↔ id ∉ t.map (·.1) := by
  induction t with
  | nil => exact ⟨fun _ => List.not_mem_nil, fun _ => rfl⟩
  | cons e r ih =>
    rw [List.map_cons, List.mem_cons, not_or, ← ih, lookupT]
    split
    next hi => exact ⟨nofun, fun h => (h.1 hi.symm).elim⟩
    next hi => exact ⟨fun h => ⟨fun e => hi e.symm, h⟩, And.right⟩

theorem lookupT_of_mem (hn : (t.map (·.1)).Nodup) (h : (id, g) ∈ t) : lookupT id t = some g := by
  induction t with
  | nil => cases h
  | cons e r ih =>
    rw [List.map_cons, List.nodup_cons] at hn
    rw [lookupT]
    rcases List.mem_cons.mp h with h | h
    · cases h; exact if_pos rfl
    · rw [if_neg, ih hn.2 h]
      rintro rfl
      exact hn.1 (List.mem_map.mpr ⟨_, h, rfl⟩)

theorem mem_eraseT {e : Tid × Gen} : e ∈ eraseT id t ↔ e ∈ t ∧ e.1 ≠ id := by
  simp [eraseT]

theorem lookupT_eraseT_self : lookupT id (eraseT id t) = none := by
  rw [lookupT_none_iff]
  intro h
  obtain ⟨e, he, hid⟩ := List.mem_map.mp h
  exact (mem_eraseT.mp he).2 hid

theorem eraseT_ids_nodup (h : (t.map (·.1)).Nodup) : ((eraseT id t).map (·.1)).Nodup := by
  unfold eraseT
  exact List.Nodup.sublist (List.Sublist.map _ List.filter_sublist) h

theorem procOf_some {g : Gen} {p : Proc} {ps : List Proc} (h : procOf g ps = some p) :
    p ∈ ps ∧ p.gen = g := by
  induction ps with
  | nil => cases h
  | cons q r ih =>
    rw [procOf] at h
    split at h
    next hq => cases h; exact ⟨List.mem_cons_self, hq⟩
    next => exact (ih h).imp_left (List.mem_cons_of_mem _)

theorem procOf_cons_ne {g' : Gen} {q : Proc} {ps : List Proc} (h : q.gen ≠ g') :
    procOf g' (q :: ps) = procOf g' ps :=
  if_neg h

/-- what `Timers.finish` does to one goroutine record -/
def fin (g : Gen) (p : Proc) : Proc := if p.gen = g then { p with phase := .finished } else p

theorem fin_same (g : Gen) (p : Proc) :
    (fin g p).gen = p.gen ∧ (fin g p).id = p.id ∧ (fin g p).due = p.due := by
  unfold fin; split <;> exact ⟨rfl, rfl, rfl⟩

theorem fin_phase_ne {g : Gen} {p : Proc} (h : p.gen ≠ g) : (fin g p).phase = p.phase := by
  unfold fin; simp [h]

theorem procOf_finish (g g' : Gen) (ps : List Proc) :
    procOf g' (finish g ps) = (procOf g' ps).map (fin g) := by
  induction ps with
  | nil => rfl
  | cons q r ih =>
    show (if (fin g q).gen = g' then some (fin g q) else procOf g' (finish g r)) = _
    rw [(fin_same g q).1, ih, procOf]
    split <;> rfl

theorem procOf_finish_some {g g' : Gen} {ps : List Proc} {p : Proc} (h : procOf g' ps = some p) :
    procOf g' (finish g ps) = some (fin g p) := by
  rw [procOf_finish, h]; rfl

/-! ## the state updates of `step`, named -/

def remSt (id : Tid) (g : Gen) (s : St) : St :=
  { s with table := eraseT id s.table, closed := g :: s.closed, cancelled := g :: s.cancelled }

def newProc (id : Tid) (delay : Nat) (s : St) : Proc :=
  { gen := s.nextGen, id := id, due := s.now + delay, phase := .waiting }

def freshSt (id : Tid) (delay : Nat) (s : St) : St :=
  { s with table := (id, s.nextGen) :: s.table,
           procs := newProc id delay s :: s.procs,
           nextGen := s.nextGen + 1, accepted := s.nextGen :: s.accepted }

def fireSt (g : Gen) (p : Proc) (s : St) : St :=
  { s with table := eraseT p.id s.table, procs := finish g s.procs, fired := (g, s.now) :: s.fired }

def retireSt (g : Gen) (s : St) : St := { s with procs := finish g s.procs }

def tickSt (s : St) : St := { s with now := s.now + 1 }

theorem step_add {rep : Bool} {s s' : St} {id : Tid} {d : Nat}
    (h : step rep s (.add id d) = some s') :
    (lookupT id s.table = none ∧ s' = freshSt id d s) ∨
    (∃ old, rep = true ∧ lookupT id s.table = some old ∧ s' = freshSt id d (remSt id old s)) := by
  dsimp only [step] at h
  split at h
  next hl => cases h; exact .inl ⟨hl, rfl⟩
  next old hl =>
    obtain ⟨hr, h⟩ := Option.ite_none_right_eq_some.mp h
    exact .inr ⟨old, hr, hl, (Option.some.inj h).symm⟩

theorem step_add_none {rep : Bool} {s : St} {id : Tid} {d : Nat} (hl : lookupT id s.table = none) :
    step rep s (.add id d) = some (freshSt id d s) := by
  dsimp only [step]; rw [hl]; rfl

theorem step_rem {rep : Bool} {s s' : St} {id : Tid} (h : step rep s (.rem id) = some s') :
    ∃ g, lookupT id s.table = some g ∧ s' = remSt id g s := by
  dsimp only [step] at h
  split at h
  next => cases h
  next g hl => cases h; exact ⟨g, hl, rfl⟩

theorem step_rem_some {rep : Bool} {s : St} {id : Tid} {g : Gen} (hl : lookupT id s.table = some g) :
    step rep s (.rem id) = some (remSt id g s) := by
  dsimp only [step]; rw [hl]; rfl

theorem step_tick {rep : Bool} {s s' : St} (h : step rep s .tick = some s') : s' = tickSt s := by
  cases h; rfl

theorem step_due {rep : Bool} {s s' : St} {g : Gen} (h : step rep s (.due g) = some s') :
    ∃ p, procOf g s.procs = some p ∧ p.phase = .waiting ∧ p.due ≤ s.now ∧
      ((lookupT p.id s.table = some g ∧ s' = fireSt g p s) ∨
       (lookupT p.id s.table ≠ some g ∧ s' = retireSt g s)) := by
  dsimp only [step] at h
  split at h
  next p hp =>
    obtain ⟨hc, h⟩ := Option.ite_none_right_eq_some.mp h
    simp only [Bool.and_eq_true, beq_iff_eq, decide_eq_true_eq] at hc
    refine ⟨p, hp, hc.1, hc.2, ?_⟩
    split at h
    next hl => exact .inl ⟨beq_iff_eq.mp hl, (Option.some.inj h).symm⟩
    next hl => exact .inr ⟨fun e => hl (beq_iff_eq.mpr e), (Option.some.inj h).symm⟩
  next => cases h

theorem step_due_fire {rep : Bool} {s : St} {g : Gen} {p : Proc} (hp : procOf g s.procs = some p)
    (hw : p.phase = .waiting) (hd : p.due ≤ s.now) (hl : lookupT p.id s.table = some g) :
    step rep s (.due g) = some (fireSt g p s) := by
  dsimp only [step]
  simp only [hp, hw, hl]
  simp [hd, fireSt]

theorem step_seeCancel {rep : Bool} {s s' : St} {g : Gen} (h : step rep s (.seeCancel g) = some s') :
    ∃ p, procOf g s.procs = some p ∧ p.phase = .waiting ∧ g ∈ s.closed ∧ s' = retireSt g s := by
  dsimp only [step] at h
  split at h
  next p hp =>
    obtain ⟨hc, h⟩ := Option.ite_none_right_eq_some.mp h
    simp only [Bool.and_eq_true, beq_iff_eq, List.contains_iff_mem] at hc
    exact ⟨p, hp, hc.1, hc.2, (Option.some.inj h).symm⟩
  next => cases h

structure Inv (s : St) : Prop where
  ids : (s.table.map (·.1)).Nodup
  live : ∀ id g, (id, g) ∈ s.table → ∃ p, procOf g s.procs = some p ∧ p.id = id ∧ p.phase = .waiting
  procLt : ∀ g p, procOf g s.procs = some p → g < s.nextGen
  accLt : ∀ g, g ∈ s.accepted → g < s.nextGen
  cancLt : ∀ g, g ∈ s.cancelled → g < s.nextGen
  tabAcc : ∀ id g, (id, g) ∈ s.table → g ∈ s.accepted
  tabNF : ∀ id g t, (id, g) ∈ s.table → (g, t) ∉ s.fired
  tabNC : ∀ id g, (id, g) ∈ s.table → g ∉ s.cancelled
  pend : ∀ g, g ∈ s.accepted → (∀ t, (g, t) ∉ s.fired) → g ∉ s.cancelled → ∃ id, (id, g) ∈ s.table
  firedNodup : (s.fired.map (·.1)).Nodup
  fired : ∀ g t, (g, t) ∈ s.fired → ∃ p, procOf g s.procs = some p ∧ p.due ≤ t
  firedNC : ∀ g t, (g, t) ∈ s.fired → g ∉ s.cancelled
  closed : ∀ g, g ∈ s.closed → g ∈ s.cancelled

theorem Inv.init : Inv St.init := by
  constructor <;> intros <;> first | exact .nil | contradiction

section
variable {s : St} (h : Inv s)
include h

/-- The table pairs ids and generations one to one: an id has one entry (`ids`), and a generation
    has one goroutine, which knows its id (`live`). -/
theorem Inv.tab_inj {id' : Tid} {g' : Gen}
    (h1 : (id, g) ∈ s.table) (h2 : (id', g') ∈ s.table) : id = id' ↔ g = g' := by
  constructor
  · rintro rfl
    exact Option.some.inj ((lookupT_of_mem h.ids h1).symm.trans (lookupT_of_mem h.ids h2))
  · rintro rfl
    obtain ⟨p, hp, hid, _⟩ := h.live id g h1
    obtain ⟨p', hp', hid', _⟩ := h.live id' g h2
    rw [hp] at hp'; cases hp'; rw [← hid, ← hid']

/-- so erasing the id of `g` removes exactly `g` -/
theorem Inv.mem_erase (hl : lookupT id s.table = some g) {id' : Tid} {g' : Gen} :
    (id', g') ∈ eraseT id s.table ↔ (id', g') ∈ s.table ∧ g' ≠ g := by
  rw [mem_eraseT]
  exact and_congr_right fun he => not_congr (h.tab_inj he (lookupT_some_mem hl))

theorem Inv.tick : Inv (tickSt s) := { h with }

theorem Inv.rem (hl : lookupT id s.table = some g) : Inv (remSt id g s) :=
  have hm := lookupT_some_mem hl
  have hgone : ∀ {id' g'}, (id', g') ∈ eraseT id s.table → (id', g') ∈ s.table ∧ g' ≠ g :=
    (h.mem_erase hl).mp
  { h with
    ids := eraseT_ids_nodup h.ids
    live := fun id' g' he => h.live id' g' (hgone he).1
    tabAcc := fun id' g' he => h.tabAcc id' g' (hgone he).1
    tabNF := fun id' g' t he => h.tabNF id' g' t (hgone he).1
    cancLt := List.forall_mem_cons.mpr ⟨h.accLt _ (h.tabAcc _ _ hm), h.cancLt⟩
    tabNC := fun id' g' he =>
      List.not_mem_cons_of_ne_of_not_mem (hgone he).2 (h.tabNC id' g' (hgone he).1)
    pend := by
      intro g' ha hf hc
      obtain ⟨hne, hc'⟩ := List.ne_and_not_mem_of_not_mem_cons hc
      obtain ⟨id', hid'⟩ := h.pend g' ha hf hc'
      exact ⟨id', (h.mem_erase hl).mpr ⟨hid', hne⟩⟩
    firedNC := fun g' t hf =>
      List.not_mem_cons_of_ne_of_not_mem (fun e => h.tabNF _ _ t hm (e ▸ hf)) (h.firedNC g' t hf)
    closed := List.forall_mem_cons.mpr
      ⟨List.mem_cons_self, fun g' e => List.mem_cons_of_mem _ (h.closed g' e)⟩ }

/-- every generation the state mentions is below `nextGen`, so the new one meets none of them -/
theorem Inv.fresh (d : Nat) (hl : lookupT id s.table = none) : Inv (freshSt id d s) :=
  have hfl : ∀ g t, (g, t) ∈ s.fired → g < s.nextGen := fun g t hf =>
    (h.fired g t hf).elim fun p hp => h.procLt g p hp.1
  have hpo : ∀ g' p, procOf g' s.procs = some p → procOf g' (newProc id d s :: s.procs) = some p :=
    fun g' p hp => (procOf_cons_ne (Nat.ne_of_lt (h.procLt g' p hp)).symm).trans hp
  { h with
    ids := List.nodup_cons.mpr ⟨lookupT_none_iff.mp hl, h.ids⟩
    live := by
      intro id' g' hm
      rcases List.mem_cons.mp hm with e | e
      · cases e
        exact ⟨newProc id d s, if_pos rfl, rfl, rfl⟩
      · obtain ⟨p, hp, hpi, hpw⟩ := h.live id' g' e
        exact ⟨p, hpo g' p hp, hpi, hpw⟩
    procLt := by
      intro g' p hp
      by_cases e : s.nextGen = g'
      · exact e ▸ Nat.lt_succ_self _
      · exact Nat.lt_succ_of_lt (h.procLt g' p ((procOf_cons_ne e).symm.trans hp))
    accLt := List.forall_mem_cons.mpr
      ⟨Nat.lt_succ_self _, fun g' e => Nat.lt_succ_of_lt (h.accLt g' e)⟩
    cancLt := fun g' hg' => Nat.lt_succ_of_lt (h.cancLt g' hg')
    tabAcc := by
      intro id' g' hm
      rcases List.mem_cons.mp hm with e | e
      · cases e; exact List.mem_cons_self
      · exact List.mem_cons_of_mem _ (h.tabAcc id' g' e)
    tabNF := by
      intro id' g' t hm hf
      rcases List.mem_cons.mp hm with e | e
      · cases e
        exact Nat.lt_irrefl _ (hfl _ t hf)
      · exact h.tabNF id' g' t e hf
    tabNC := by
      intro id' g' hm hc
      rcases List.mem_cons.mp hm with e | e
      · cases e
        exact Nat.lt_irrefl _ (h.cancLt _ hc)
      · exact h.tabNC id' g' e hc
    pend := by
      intro g' ha hf hc
      rcases List.mem_cons.mp ha with e | e
      · subst e; exact ⟨id, List.mem_cons_self⟩
      · obtain ⟨id', hid'⟩ := h.pend g' e hf hc
        exact ⟨id', List.mem_cons_of_mem _ hid'⟩
    fired := by
      intro g' t hf
      obtain ⟨p, hp, hd⟩ := h.fired g' t hf
      exact ⟨p, hpo g' p hp, hd⟩ }

theorem Inv.retire (hn : ∀ id, (id, g) ∉ s.table) : Inv (retireSt g s) :=
  { h with
    live := by
      intro id' g' hm
      obtain ⟨p, hp, hpi, hpw⟩ := h.live id' g' hm
      refine ⟨fin g p, procOf_finish_some hp, (fin_same g p).2.1.trans hpi, (fin_phase_ne ?_).trans hpw⟩
      rw [(procOf_some hp).2]
      rintro rfl; exact hn id' hm
    procLt := by
      intro g' p hp
      obtain ⟨q, hq, _⟩ := Option.map_eq_some_iff.mp ((procOf_finish g g' s.procs).symm.trans hp)
      exact h.procLt g' q hq
    fired := by
      intro g' t hf
      obtain ⟨p, hp, hd⟩ := h.fired g' t hf
      exact ⟨fin g p, procOf_finish_some hp, (fin_same g p).2.2.symm ▸ hd⟩ }

/-- The state with the entry dropped and the firing recorded, the goroutine still parked, satisfies
    the invariant; firing is that state followed by `retire`. -/
theorem Inv.fire {p : Proc} (hp : procOf g s.procs = some p)
    (hd : p.due ≤ s.now) (hl : lookupT p.id s.table = some g) : Inv (fireSt g p s) :=
  have hm := lookupT_some_mem hl
  have hgone : ∀ {id' g'}, (id', g') ∈ eraseT p.id s.table → (id', g') ∈ s.table ∧ g' ≠ g :=
    (h.mem_erase hl).mp
  have h1 : Inv { s with table := eraseT p.id s.table, fired := (g, s.now) :: s.fired } :=
    { h with
      ids := eraseT_ids_nodup h.ids
      live := fun id' g' he => h.live id' g' (hgone he).1
      tabAcc := fun id' g' he => h.tabAcc id' g' (hgone he).1
      tabNC := fun id' g' he => h.tabNC id' g' (hgone he).1
      tabNF := fun id' g' t he => List.not_mem_cons_of_ne_of_not_mem
        (fun e => (hgone he).2 (congrArg Prod.fst e)) (h.tabNF id' g' t (hgone he).1)
      pend := by
        intro g' ha hf hc
        obtain ⟨id', hid'⟩ := h.pend g' ha (fun t ht => hf t (List.mem_cons_of_mem _ ht)) hc
        exact ⟨id', (h.mem_erase hl).mpr ⟨hid', fun e => hf s.now (e ▸ List.mem_cons_self)⟩⟩
      firedNodup := by
        show (((g, s.now) :: s.fired).map (·.1)).Nodup
        rw [List.map_cons, List.nodup_cons]
        refine ⟨fun hc => ?_, h.firedNodup⟩
        obtain ⟨⟨g0, t0⟩, he, rfl⟩ := List.mem_map.mp hc
        exact h.tabNF _ _ t0 hm he
      fired := by
        intro g' t hf
        rcases List.mem_cons.mp hf with e | e
        · cases e; exact ⟨p, hp, hd⟩
        · exact h.fired g' t e
      firedNC := by
        intro g' t hf
        rcases List.mem_cons.mp hf with e | e
        · cases e; exact h.tabNC _ _ hm
        · exact h.firedNC g' t e }
  h1.retire fun id hid => (hgone hid).2 rfl

theorem Inv.step {rep : Bool} {s' : St} {a : Act} (hs : step rep s a = some s') : Inv s' := by
  cases a with
  | add id d =>
    rcases step_add hs with ⟨hl, e⟩ | ⟨old, _, hl, e⟩
    · subst e; exact h.fresh d hl
    · subst e
      exact (h.rem hl).fresh d lookupT_eraseT_self
  | rem id =>
    obtain ⟨g, hl, e⟩ := step_rem hs
    subst e; exact h.rem hl
  | tick => rw [step_tick hs]; exact h.tick
  | due g =>
    obtain ⟨p, hp, hw, hd, ⟨hl, e⟩ | ⟨hl, e⟩⟩ := step_due hs
    · subst e; exact h.fire hp hd hl
    · subst e
      apply h.retire
      intro id hm
      obtain ⟨q, hq, hqi, _⟩ := h.live id g hm
      rw [hp] at hq; cases hq
      subst hqi
      exact hl (lookupT_of_mem h.ids hm)
  | seeCancel g =>
    obtain ⟨p, hp, hw, hc, e⟩ := step_seeCancel hs
    subst e
    apply h.retire
    intro id hm
    exact h.tabNC id g hm (h.closed g hc)

theorem Inv.run {rep : Bool} {tr : List Act} {s' : St} (hr : Timers.run rep s tr = some s') : Inv s' := by
  induction tr generalizing s with
  | nil => cases hr; exact h
  | cons a as ih =>
    rw [Timers.run] at hr
    split at hr
    next s1 hs => exact ih (h.step hs) hr
    next => cases hr

end

/-! ## the Bool observations follow from the invariant -/

theorem Inv.firedOnce {s : St} (h : Inv s) : firedOnce s = true := by
  unfold Timers.firedOnce
  rw [List.all_eq_true]
  intro g hg
  rw [← List.count_eq_length_filter, h.firedNodup.count, if_pos hg]
  rfl

theorem Inv.neverEarly {s : St} (h : Inv s) : neverEarly s = true := by
  unfold Timers.neverEarly
  rw [List.all_eq_true]
  rintro ⟨g, t⟩ hf
  obtain ⟨p, hp, hd⟩ := h.fired g t hf
  simp only [hp]
  simpa using hd

theorem Inv.neverBoth {s : St} (h : Inv s) : neverBoth s = true := by
  unfold Timers.neverBoth
  rw [List.all_eq_true]
  rintro ⟨g, t⟩ hf
  have := h.firedNC g t hf
  simpa using this

theorem mem_pendingGens {s : St} {g : Gen} : g ∈ pendingGens s ↔ ∃ id, (id, g) ∈ s.table := by
  simp only [pendingGens, List.mem_map, Prod.exists, exists_eq_right]

theorem Inv.tableIsPending {s : St} (h : Inv s) : tableIsPending s = true := by
  unfold Timers.tableIsPending
  rw [Bool.and_eq_true, List.all_eq_true, List.all_eq_true]
  constructor
  · intro g ha
    rw [beq_iff_eq, Bool.eq_iff_iff]
    simp only [List.contains_iff_mem, Bool.and_eq_true, Bool.not_eq_true', Bool.eq_false_iff, ne_eq,
      mem_pendingGens, List.mem_map, Prod.exists, exists_and_right, exists_eq_right]
    constructor
    · rintro ⟨id, hm⟩
      exact ⟨fun ⟨t, ht⟩ => h.tabNF id g t hm ht, h.tabNC id g hm⟩
    · rintro ⟨hf, hc⟩
      exact h.pend g ha (fun t ht => hf ⟨t, ht⟩) hc
  · intro g hg
    obtain ⟨id, hm⟩ := mem_pendingGens.mp hg
    simpa using h.tabAcc id g hm

theorem Inv.tableLive {s : St} (h : Inv s) : tableLive s = true := by
  unfold Timers.tableLive
  rw [List.all_eq_true]
  rintro ⟨id, g⟩ hm
  obtain ⟨p, hp, hi, hw⟩ := h.live id g hm
  simp only [hp]
  simp [hi, hw]

theorem Inv.tableIdsDistinct {s : St} (h : Inv s) : tableIdsDistinct s = true := by
  unfold Timers.tableIdsDistinct
  rw [List.all_eq_true]
  intro e he
  have := h.ids.count (a := e.1)
  rw [if_pos (List.mem_map_of_mem he), List.count, List.countP_map, List.countP_eq_length_filter] at this
  rw [beq_iff_eq]
  exact this

/-- the goroutine a restart gives a pending generation: same id and due time, parked (by induction on
    the table, the rest of the state fixed) -/
theorem procOf_restart {s : St} {id : Tid} {g : Gen} {p : Proc}
    (hall : ∀ id g, (id, g) ∈ s.table → ∃ p, procOf g s.procs = some p ∧ p.id = id ∧ p.phase = .waiting)
    (hm : (id, g) ∈ s.table) (hp : procOf g s.procs = some p) :
    procOf g (restart s).procs = some { gen := g, id := p.id, due := p.due, phase := .waiting } := by
  obtain ⟨now, t, ps, cl, ng, acc, ca, fi⟩ := s
  induction t with
  | nil => cases hm
  | cons e r ih =>
    obtain ⟨i, g0⟩ := e
    obtain ⟨p0, hp0, hi0, -⟩ := hall i g0 List.mem_cons_self
    simp only [restart, List.filterMap_cons, hp0, Option.map_some, List.map_cons]
    by_cases e : g0 = g
    · subst e
      rw [hp0] at hp; cases hp
      simp [procOf, hi0]
    · rw [procOf_cons_ne e]
      exact ih (fun id g h => hall id g (List.mem_cons_of_mem _ h))
        ((List.mem_cons.mp hm).resolve_left fun h => e (Prod.mk.inj h).2.symm) hp

/-- Restart keeps the invariant, so whatever holds of the states reachable from `St.init` holds of
    those reachable after a restart as well (`Inv.run`). -/
theorem Inv.restart {s : St} (h : Inv s) : Inv (restart s) :=
  { ids := h.ids
    live := by
      intro id g hm
      obtain ⟨p, hp, hpi, _⟩ := h.live id g hm
      exact ⟨_, procOf_restart h.live hm hp, hpi, rfl⟩
    procLt := by
      intro g p' hp'
      obtain ⟨hmem, rfl⟩ := procOf_some hp'
      simp only [Timers.restart, List.mem_map, List.mem_filterMap, Option.map_eq_some_iff] at hmem
      obtain ⟨_, ⟨⟨id, g⟩, hm, q, _, rfl⟩, rfl⟩ := hmem
      exact h.accLt _ (h.tabAcc id _ hm)
    accLt := by
      intro g ha
      obtain ⟨id, hm⟩ := mem_pendingGens.mp ha
      exact h.accLt g (h.tabAcc id g hm)
    tabAcc := fun id g hm => mem_pendingGens.mpr ⟨id, hm⟩
    pend := fun g ha _ _ => mem_pendingGens.mp ha
    firedNodup := .nil
    cancLt := fun _ => nofun, tabNF := fun _ _ _ _ => nofun, tabNC := fun _ _ _ => nofun,
    fired := fun _ _ => nofun, firedNC := fun _ _ => nofun, closed := fun _ => nofun }

end Timers
