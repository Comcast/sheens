import Sheens.Match

/-!
# The matcher's own lemmas: its defining equations, its dispatching arms, its indexes

The clauses of the `mutual` block of `Match.lean` that proofs unfold, one lemma each, by `rfl`; proofs
unfold the matcher with `rw [matchWith_cons]` and the like.  (Unfolding by the function's name,
`simp only [matchWith]`, makes Lean derive the equation lemmas of the whole block, at about 0.3 s a
function, in every module that is the first on its import chain to do so.)  `matchStr`,
`matchBound` and `matchObj` only dispatch: the `_arm` lemmas say to what.
-/

section
variable (n : Nat) (p f b pat x : V) (s k : String) (bs : Bs) (bss : List Bs)
  (bsss : List (List Bs)) (pm fm : List (String × V)) (ps xs : List V) (fxs : List Scalar)
  (mm todo : List (Nat × V)) (fxas : List (List (Nat × V))) (e : Bool)

@[simp] theorem matchF_zero : matchF 0 p f bs = .diverge := rfl
@[simp] theorem matchStr_zero : matchStr 0 s f bs = .diverge := rfl
@[simp] theorem matchBound_zero : matchBound 0 b f bs = .diverge := rfl
@[simp] theorem matchObj_zero : matchObj 0 pm f bs = .diverge := rfl
@[simp] theorem matchArr_zero : matchArr 0 ps f bs = .diverge := rfl
@[simp] theorem loopXs_zero : loopXs 0 xs fxs bsss fxas e = .inl .diverge := rfl
@[simp] theorem arraycat_zero : arraycat 0 bsss pat fxas = .inl .diverge := rfl
@[simp] theorem arrayOne_zero : arrayOne 0 bss pat mm todo = .inl .diverge := rfl
@[simp] theorem matchWith_zero : matchWith 0 bss p f = .diverge := rfl
@[simp] theorem mapcat_zero : mapcat 0 bss pm fm = .diverge := rfl
@[simp] theorem propGather_zero : propGather 0 bss k p fm = .diverge := rfl

theorem matchF_succ : matchF (n+1) p f bs =
    match fudge p with
    | .null => matchNull (fudge f) bs
    | .bool a => matchBool a (fudge f) bs
    | .num a => matchNum a (fudge f) bs
    | .str s => matchStr n s (fudge f) bs
    | .obj pm => matchObj n pm (fudge f) bs
    | .arr ps => matchArr n ps (fudge f) bs
    | _ => .err .unknownPatternType := rfl

theorem matchStr_succ : matchStr (n+1) s f bs =
    if !isVar s then
      match f with
      | .str t => if s = t then .ok [bs] else .ok []
      | _ => .ok []
    else if isAnon s then .ok [bs]
    else
      match inequal f bs s with
      | some r => .ok r
      | none =>
        match lookup s bs with
        | some b => matchBound n b f bs
        | none => .ok [(s, f) :: bs] := rfl

theorem matchBound_succ : matchBound (n+1) b f bs =
    match b with
    | .str t =>
      if isVar t then
        match f with
        | .str u => if t = u then .ok [bs] else .ok []
        | _ => .ok []
      else matchF n b f bs
    | _ => matchF n b f bs := rfl

theorem matchObj_succ : matchObj (n+1) pm f bs =
    match f with
    | .obj fm =>
      if pm.isEmpty then .ok [bs]
      else if checkBadPropVars pm then .err .badPropVar
      else
        match pm with
        | [(k, v)] => if isVar k then propGather n [bs] k v fm else mapcat n [bs] pm fm
        | _ => mapcat n [bs] pm fm
    | _ => .ok [] := rfl

theorem matchArr_succ : matchArr (n+1) ps f bs =
    match getVariable ps none [] with
    | .error e => .err e
    | .ok (v, xs) =>
      match f with
      | .arr fa =>
        match loopXs n xs (indexScalars fa []) [[bs]] [indexStruct fa 0]
            (indexStruct fa 0).isEmpty with
        | .inl r => r
        | .inr (fxs', bsss, fxas) =>
          match v with
          | none => .ok bsss.flatten
          | some vn =>
            match arraycat n bsss (.str vn)
                (fxas.map (fun m => m ++ leftovers fxs' fa.length)) with
            | .inl r => r
            | .inr (bsss', _) =>
              if bsss'.isEmpty && isOptVar (.str vn) then .ok bsss.flatten else .ok bsss'.flatten
      | _ => .ok [] := rfl

theorem loopXs_nil : loopXs (n+1) [] fxs bsss fxas e = .inr (fxs, bsss, fxas) := rfl
theorem loopXs_cons : loopXs (n+1) (x :: xs) fxs bsss fxas e =
    match x.scalar? with
    | some sc =>
      if fxs.contains sc then loopXs n xs (fxs.erase sc) bsss fxas e
      else .inl (.ok [])
    | none =>
      if e then .inl (.ok [])
      else
        match arraycat n bsss x fxas with
        | .inl r => .inl r
        | .inr (bsss', fxas') =>
          if bsss'.isEmpty then .inl (.ok []) else loopXs n xs fxs bsss' fxas' e := rfl

theorem arraycat_nil : arraycat (n+1) [] pat fxas = .inr ([], []) := rfl
theorem arraycat_cons : arraycat (n+1) (bss :: bsss) pat (mm :: fxas) =
    match arrayOne n bss pat mm mm with
    | .inl r => .inl r
    | .inr (a1, f1) =>
      match arraycat n bsss pat fxas with
      | .inl r => .inl r
      | .inr (a2, f2) => .inr (a1 ++ a2, f1 ++ f2) := rfl

theorem arrayOne_nil : arrayOne (n+1) bss pat mm [] = .inr ([], []) := rfl
theorem arrayOne_cons (j : Nat) (fact : V) : arrayOne (n+1) bss pat mm ((j, fact) :: todo) =
    match matchWith n bss pat fact with
    | .ok acc =>
      match arrayOne n bss pat mm todo with
      | .inl r => .inl r
      | .inr (a, f) =>
        if acc.isEmpty then .inr (a, f)
        else .inr (acc :: a, (mm.filter (fun e => e.1 != j)) :: f)
    | e => .inl e := rfl

theorem matchWith_nil : matchWith (n+1) [] p f = .ok [] := rfl
theorem matchWith_cons : matchWith (n+1) (bs :: bss) p f =
    match matchF n p f bs with
    | .ok r1 =>
      match matchWith n bss p f with
      | .ok r2 => .ok (r1 ++ r2)
      | e => e
    | e => e := rfl

theorem mapcat_nil : mapcat (n+1) bss [] fm = .ok bss := rfl
theorem mapcat_cons (v : V) : mapcat (n+1) bss ((k, v) :: pm) fm =
    if isVar k then .err .badPropVar
    else
      match lookup k fm with
      | none => if isOptVar v then mapcat n bss pm fm else .ok []
      | some fv =>
        match matchWith n bss v fv with
        | .ok [] => .ok []
        | .ok acc => mapcat n acc pm fm
        | e => e := rfl

theorem propGather_nil (v : V) : propGather (n+1) bss k v [] = .ok [] := rfl
theorem propGather_cons (v fv : V) (fk : String) : propGather (n+1) bss k v ((fk, fv) :: fm) =
    match matchWith n bss (.str k) (.str fk) with
    | .ok ext =>
      match (if ext.isEmpty then .ok [] else matchWith n ext v fv : MRes) with
      | .ok ext2 =>
        match propGather n bss k v fm with
        | .ok more => .ok (ext2 ++ more)
        | e => e
      | e => e
    | e => e := rfl

end

/-! ## the dispatching arms: a fixed answer, or a tail call with the remaining fuel -/

/-- comparing the message with a string constant -/
theorem matchConst_ok (s : String) (f : V) (bs : Bs) :
    ∃ rs, (match f with
      | .str t => if s = t then .ok [bs] else .ok []
      | _ => .ok []) = MRes.ok rs := by
  cases f with
  | str t => exact if h : s = t then ⟨_, if_pos h⟩ else ⟨_, if_neg h⟩
  | _ => exact ⟨_, rfl⟩

theorem matchStr_arm (s : String) (f : V) (bs : Bs) :
    (∃ rs, ∀ n, matchStr (n+1) s f bs = .ok rs) ∨
    (∃ b, isVar s = true ∧ lookup s bs = some b ∧
      ∀ n, matchStr (n+1) s f bs = matchBound n b f bs) := by
  by_cases h1 : (!isVar s) = true
  · obtain ⟨rs, h⟩ := matchConst_ok s f bs
    exact .inl ⟨rs, fun _ => (if_pos h1).trans h⟩
  · by_cases h2 : isAnon s = true
    · exact .inl ⟨[bs], fun _ => by rw [matchStr_succ, if_neg h1, if_pos h2]⟩
    · cases hi : inequal f bs s with
      | some r => exact .inl ⟨r, fun _ => by rw [matchStr_succ, if_neg h1, if_neg h2, hi]⟩
      | none =>
        cases hl : lookup s bs with
        | some b =>
          exact .inr ⟨b, by simpa using h1, rfl,
            fun _ => by rw [matchStr_succ, if_neg h1, if_neg h2, hi, hl]⟩
        | none =>
          exact .inl ⟨[(s, f) :: bs],
            fun _ => by rw [matchStr_succ, if_neg h1, if_neg h2, hi, hl]⟩

theorem matchBound_arm (b f : V) (bs : Bs) :
    (∃ rs, ∀ n, matchBound (n+1) b f bs = .ok rs) ∨
    ((∀ t, b = .str t → isVar t = false) ∧ ∀ n, matchBound (n+1) b f bs = matchF n b f bs) := by
  cases b with
  | str t =>
    by_cases hv : isVar t = true
    · obtain ⟨rs, h⟩ := matchConst_ok t f bs
      exact .inl ⟨rs, fun _ => (if_pos hv).trans h⟩
    · exact .inr ⟨fun _ h => by cases h; simpa using hv, fun _ => if_neg hv⟩
  | _ => exact .inr ⟨fun _ h => (by cases h), fun _ => rfl⟩

theorem checkBadPropVars_false {pm : List (String × V)} (h : ∀ kv ∈ pm, isVar kv.1 = false) :
    checkBadPropVars pm = false := by
  have : pm.any (fun kv => isVar kv.1) = false :=
    List.any_eq_false.mpr (fun kv hkv => by simp [h kv hkv])
  simp [checkBadPropVars, this]

theorem matchObj_other (pm : List (String × V)) (f : V) (bs : Bs) :
    (∃ fm, f = .obj fm) ∨ ∀ n, matchObj (n+1) pm f bs = .ok [] := by
  cases f with
  | obj fm => exact .inl ⟨fm, rfl⟩
  | _ => exact .inr fun _ => rfl

/-- the four ways through `matchObj` on an object message, with what its tests say of the keys -/
theorem matchObj_arms (pm fm : List (String × V)) (bs : Bs) :
    (pm = [] ∧ ∀ n, matchObj (n+1) pm (.obj fm) bs = .ok [bs]) ∨
    (checkBadPropVars pm = true ∧ ∀ n, matchObj (n+1) pm (.obj fm) bs = .err .badPropVar) ∨
    (∃ k v, pm = [(k, v)] ∧ isVar k = true ∧
      ∀ n, matchObj (n+1) pm (.obj fm) bs = propGather n [bs] k v fm) ∨
    (pm ≠ [] ∧ (∀ kv ∈ pm, isVar kv.1 = false) ∧
      ∀ n, matchObj (n+1) pm (.obj fm) bs = mapcat n [bs] pm fm) := by
  match pm with
  | [] => exact .inl ⟨rfl, fun _ => rfl⟩
  | [(k, v)] =>
    cases hk : isVar k with
    | true =>
      exact .inr (.inr (.inl ⟨k, v, rfl, hk, fun _ => by simp [matchObj_succ, checkBadPropVars, hk]⟩))
    | false =>
      exact .inr (.inr (.inr ⟨List.cons_ne_nil _ _, fun _ hkv => List.mem_singleton.mp hkv ▸ hk,
        fun _ => by simp [matchObj_succ, checkBadPropVars, hk]⟩))
  | kv₁ :: kv₂ :: rest =>
    cases hb : checkBadPropVars (kv₁ :: kv₂ :: rest) with
    | true => exact .inr (.inl ⟨rfl, fun _ => by simp [matchObj_succ, hb]⟩)
    | false =>
      -- `hb` is about `any`: the length test evaluates
      exact .inr (.inr (.inr ⟨List.cons_ne_nil _ _,
        fun kv hkv => eq_false_of_ne_true (List.any_eq_false.mp hb kv hkv),
        fun _ => by simp [matchObj_succ, hb]⟩))

/-! ## what `indexStruct` and `leftovers` return comes from their argument -/

theorem indexStruct_mem {fa : List V} : ∀ {i : Nat} {e : Nat × V}, e ∈ indexStruct fa i →
    i ≤ e.1 ∧ e.2 ∈ fa := by
  induction fa with
  | nil => intro i e h; cases h
  | cons x fa ih =>
    intro i e h
    simp only [indexStruct] at h
    split at h
    · obtain ⟨h1, h2⟩ := ih h
      exact ⟨Nat.le_of_succ_le h1, List.mem_cons_of_mem _ h2⟩
    · rcases List.mem_cons.mp h with rfl | h
      · exact ⟨Nat.le_refl _, List.mem_cons_self⟩
      · obtain ⟨h1, h2⟩ := ih h
        exact ⟨Nat.le_of_succ_le h1, List.mem_cons_of_mem _ h2⟩

theorem leftovers_mem {ss : List Scalar} : ∀ {i : Nat} {e : Nat × V}, e ∈ leftovers ss i →
    ∃ sc ∈ ss, e.2 = sc.toV := by
  induction ss with
  | nil => intro i e h; simp [leftovers] at h
  | cons s ss ih =>
    intro i e h
    simp only [leftovers] at h
    rcases List.mem_cons.mp h with rfl | h
    · exact ⟨s, List.mem_cons_self, rfl⟩
    · obtain ⟨sc, h1, h2⟩ := ih h
      exact ⟨sc, List.mem_cons_of_mem _ h1, h2⟩
