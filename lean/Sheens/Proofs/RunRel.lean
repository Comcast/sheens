import Sheens.Proofs.RunOf
import Sheens.Proofs.ValPred

/-!
# The matcher only ever binds fresh keys, to parts of the message and to numbers

The matcher changes bindings in two places only (`matchStr`: a new variable gets the message value;
`inequal`: the counterpart gets a number), each time consing a key that is unbound.  So every result
is related to the bindings it started from by any relation that is reflexive, transitive and
contains "cons an unbound key with a `P`-value" (`StepRel P R`), for a `P` that the message satisfies
and that descends to the parts the matcher hands on (`FactPred P`).  Nothing is asked of the pattern.

Instances: `Extends` (`matchF_extends`) and `NoDupKeys` (`matchF_nodup`) with `P` always true,
`AllBs P` for a `ValPred P` (`Plain.matchF_pred`), `GoodBs` (`Run.goodBs`).
-/

open Plain

/-- `P` descends from a message to the parts the matcher hands on, and holds of numbers.  Every
    `ValPred` is one; so is `V.good`, which is no `ValPred` (strings that look like variables). -/
structure FactPred (P : V → Prop) : Prop where
  fudge : ∀ {f}, P f → P (fudge f)
  num : ∀ q, P (.num q)
  arr : ∀ {xs}, P (.arr xs) → ∀ x ∈ xs, P x
  obj : ∀ {kvs}, P (.obj kvs) → ∀ kv ∈ kvs, P (.str kv.1) ∧ P kv.2

theorem Plain.ValPred.factPred {P : V → Prop} (hP : ValPred P) : FactPred P :=
  ⟨pred_fudge hP, hP.num, (hP.arr _).mp, fun h kv hkv => ⟨hP.str _, (hP.obj _).mp h kv hkv⟩⟩

theorem factPred_true : FactPred fun _ => True :=
  ⟨fun _ => trivial, fun _ => trivial, fun _ _ _ => trivial, fun _ _ _ => ⟨trivial, trivial⟩⟩

theorem factPred_good : FactPred fun v => v.good = true where
  fudge := fun h => (fudge_good h).symm ▸ h
  num := fun _ => rfl
  arr := fun h => goodList_mem h
  obj := fun h kv hkv =>
    have := goodKvs_mem h kv hkv
    ⟨by simpa [V.good] using this.1, this.2⟩

structure StepRel (P : V → Prop) (R : Bs → Bs → Prop) : Prop where
  refl  : ∀ a, R a a
  trans : ∀ {a b c}, R a b → R b c → R a c
  fresh : ∀ {s v bs}, P v → lookup s bs = none → R bs ((s, v) :: bs)

theorem Run.arr_sub {g : Goal} {bs r : Bs} (h : Run g bs r) :
    ∀ {xs L L'}, g = .arr xs L L' → ∀ x ∈ L', x ∈ L := by
  induction h <;> intro xs₀ L₀ L₀' hg <;> cases hg
  case loopNil => exact fun x hx => hx
  case loopScalar hp _ ih => exact fun y hy => hp.sub y (ih rfl y hy)
  case loopStruct hp _ _ _ ih => exact fun y hy => hp.sub y (ih rfl y hy)

/-- the message parts a goal hands to the matcher -/
def Goal.Facts (P : V → Prop) : Goal → Prop
  | .one _ f | .arm _ f => P f
  | .kvs _ fm => AllBs P fm
  | .arr _ L _ => ∀ x ∈ L, P x

theorem Run.rel {P : V → Prop} {R : Bs → Bs → Prop} (hP : FactPred P) (hR : StepRel P R)
    {g : Goal} {bs r : Bs} (h : Run g bs r) : g.Facts P → R bs r := by
  induction h with
  | fudge _ ih => exact fun hf => ih (hP.fudge hf)
  | const | anon | ineqOld | boundVar | objEmpty | kvsNil | loopNil => exact fun _ => hR.refl _
  | ineqNew _ _ _ _ _ _ hl => exact fun _ => hR.fresh (hP.num _) hl
  | bound _ _ _ _ _ _ ih => exact ih
  | fresh _ _ _ hl => exact fun hf => hR.fresh hf hl
  | objProp _ hm _ _ ih₁ ih₂ =>
    exact fun hf => hR.trans (ih₁ (hP.obj hf _ hm).1) (ih₂ (hP.obj hf _ hm).2)
  | obj _ _ ih => exact fun hf => ih (fun kv hkv => (hP.obj hf kv hkv).2)
  | kvsAbsent _ _ _ _ ih => exact ih
  | kvsPresent _ hl _ _ ih₁ ih₂ => exact fun hf => hR.trans (ih₁ (all_lookup hf hl)) (ih₂ hf)
  | arrNone _ _ ih => exact fun hf => ih (hP.arr hf)
  | arrVar _ hloop hp _ ih₁ ih₂ =>
    intro hf
    have hfa := hP.arr hf
    exact hR.trans (ih₁ hfa) (ih₂ (hfa _ (hloop.arr_sub rfl _ hp.mem)))
  | arrSkip _ _ _ ih => exact fun hf => ih (hP.arr hf)
  | loopScalar _ hp _ ih => exact fun hf => ih (fun y hy => hf y (hp.sub y hy))
  | loopStruct _ hp _ _ ih₁ ih₂ =>
    exact fun hf => hR.trans (ih₁ (hf _ hp.mem)) (ih₂ (fun y hy => hf y (hp.sub y hy)))

theorem matchF_rel {P : V → Prop} {R : Bs → Bs → Prop} (hP : FactPred P) (hR : StepRel P R)
    {n : Nat} {p f : V} {bs : Bs} {rs : List Bs} (hf : P f) (h : matchF n p f bs = .ok rs) :
    ∀ r ∈ rs, R bs r :=
  fun r hr => (matchF_run h r hr).rel hP hR hf

theorem stepRel_extends : StepRel (fun _ => True) Extends :=
  ⟨Extends.refl, Extends.trans, fun _ => extends_cons_fresh⟩

/-- the matcher only extends: every binding given is in every result, with the same value -/
theorem matchF_extends {n : Nat} {p f : V} {bs r : Bs} {rs : List Bs}
    (h : matchF n p f bs = .ok rs) (hr : r ∈ rs) :
    ∀ k v, lookup k bs = some v → lookup k r = some v :=
  matchF_rel factPred_true stepRel_extends trivial h r hr

theorem stepRel_goodBs : StepRel (fun v => v.good = true) (fun bs r => GoodBs bs → GoodBs r) :=
  ⟨fun _ h => h, fun h₁ h₂ h => h₂ (h₁ h), fun hv _ hb => goodBs_cons hv hb⟩

theorem Run.goodBs {g : Goal} {bs r : Bs} (h : Run g bs r) (hg : g.Facts fun v => v.good = true)
    (hb : GoodBs bs) : GoodBs r :=
  h.rel factPred_good stepRel_goodBs hg hb

namespace Plain

/-- the matcher only binds parts of the message and numbers -/
theorem matchF_pred {P : V → Prop} (hP : ValPred P) {n : Nat} {p f : V} {bs : Bs} {rs : List Bs}
    (hf : P f) (hb : AllBs P bs) (h : matchF n p f bs = .ok rs) : ∀ r ∈ rs, AllBs P r :=
  fun r hr => matchF_rel (R := fun bs r => AllBs P bs → AllBs P r) hP.factPred
    ⟨fun _ h => h, fun h1 h2 h => h2 (h1 h), fun hv _ hb => allBs_cons hv hb⟩ hf h r hr hb

end Plain
