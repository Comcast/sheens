import Sheens.Own
import Sheens.Proofs.Permanent

/-!
# Heap lemmas for the ownership layer (C06)

The definitions the C06 theorems speak about (`Clean`, `KeepsClean`, `SameBelow`, `StateOk`) and
the basic facts about `Heap.get` / `alloc` / `set`, the relation `Grows` ("`h'` is a well-formed,
clean heap in which every map of `h` still has its content") and `Alloc` ("the address names a map
that exists").  On top of them the two notions every lemma of the layer is stated with: `Made`
(a map the run made itself, which is what `copyH` gives and `writeH` keeps) and `Ran` (the outcome
of a run: the heap grew, and a postcondition).
-/

namespace Sheens.C06
open Own

/-- every cell holds a map without duplicate keys -/
def Clean (h : Heap) : Prop := ∀ c ∈ h.cells, NoDupKeys c.2

/-- actions and guards hand back clean heaps (a Go map cannot hold a key twice) -/
def KeepsClean (s : SpecH) : Prop :=
  ∀ kn ∈ s.nodes,
    (∀ a, kn.2.action = some a → ∀ h arg, Clean h → Clean (a.run h arg).1) ∧
    (∀ bs, kn.2.branches = some bs → ∀ b ∈ bs.branches, ∀ g, b.guard = some g →
        ∀ h arg, Clean h → Clean (g.run h arg).1)

/-- every map that existed in `h` has the same content in `h'` -/
def SameBelow (h h' : Heap) : Prop := ∀ x, x < h.next → h'.get x = h.get x

/-- the given state's map, if any, exists -/
def StateOk (h : Heap) (st : StateH) : Prop := ∀ x, st.bs = some x → x < h.next ∧ (h.get x).isSome

/-! ## `get` after `alloc` and `set` -/

theorem get_cons_self (cells : List (Addr × Bs)) (n a : Addr) (b : Bs) :
    Heap.get { cells := (a, b) :: cells, next := n } a = some b := by
  simp [Heap.get, List.find?]

theorem get_cons_ne (cells : List (Addr × Bs)) (n m a x : Addr) (b : Bs) (hne : x ≠ a) :
    Heap.get { cells := (a, b) :: cells, next := n } x = Heap.get { cells := cells, next := m } x := by
  have : (a == x) = false := by simpa using fun h => hne h.symm
  simp [Heap.get, List.find?, this]

theorem get_alloc_self (h : Heap) (b : Bs) : (h.alloc b).1.get h.next = some b :=
  get_cons_self _ _ _ _

theorem get_alloc_ne (h : Heap) (b : Bs) (x : Addr) (hne : x ≠ h.next) :
    (h.alloc b).1.get x = h.get x :=
  get_cons_ne _ _ _ _ _ _ hne

theorem get_set_self (h : Heap) (a : Addr) (b : Bs) : (h.set a b).get a = some b :=
  get_cons_self _ _ _ _

theorem get_set_ne (h : Heap) (a x : Addr) (b : Bs) (hne : x ≠ a) : (h.set a b).get x = h.get x :=
  get_cons_ne _ _ _ _ _ _ hne

theorem alloc_next (h : Heap) (b : Bs) : (h.alloc b).1.next = h.next + 1 := rfl
theorem alloc_addr (h : Heap) (b : Bs) : (h.alloc b).2 = h.next := rfl
theorem set_next (h : Heap) (a : Addr) (b : Bs) : (h.set a b).next = h.next := rfl

theorem get_mem {h : Heap} {a : Addr} {b : Bs} (hg : h.get a = some b) : (a, b) ∈ h.cells := by
  unfold Heap.get at hg
  split at hg
  · next c hc =>
    cases hg
    have : c.1 = a := by simpa using List.find?_some hc
    exact this ▸ List.mem_of_find?_eq_some hc
  · cases hg

theorem get_lt {h : Heap} (hwf : h.WF) {a : Addr} {b : Bs} (hg : h.get a = some b) : a < h.next :=
  hwf _ (get_mem hg)

theorem clean_get {h : Heap} (hc : Clean h) {a : Addr} {b : Bs} (hg : h.get a = some b) :
    NoDupKeys b :=
  hc _ (get_mem hg)

/-! ## well-formed and clean heaps -/

def Inv (h : Heap) : Prop := h.WF ∧ Clean h

/-- a cell put in front: handed out (`a < n`), nothing taken back (`h.next ≤ n`), duplicate-free;
    `alloc` and `set` both do this -/
theorem inv_cons {h : Heap} (hi : Inv h) {a n : Addr} (ha : a < n) (hn : h.next ≤ n) {b : Bs}
    (hb : NoDupKeys b) : Inv { cells := (a, b) :: h.cells, next := n } := by
  refine ⟨fun c hc => ?_, fun c hc => ?_⟩ <;> rcases List.mem_cons.mp hc with rfl | hc
  · exact ha
  · exact Nat.lt_of_lt_of_le (hi.1 c hc) hn
  · exact hb
  · exact hi.2 c hc

/-- the address names a map that exists -/
def Alloc (h : Heap) (x : Addr) : Prop := x < h.next ∧ (h.get x).isSome

def OptAlloc (h : Heap) (oa : Option Addr) : Prop := ∀ x, oa = some x → Alloc h x

theorem optAlloc_none (h : Heap) : OptAlloc h none := fun _ hx => by cases hx
theorem optAlloc_some {h : Heap} {x : Addr} (hx : Alloc h x) : OptAlloc h (some x) :=
  fun _ hy => by cases hy; exact hx

theorem alloc_of_get {h : Heap} (hi : Inv h) {a : Addr} {c : Bs} (hget : h.get a = some c) : Alloc h a :=
  ⟨get_lt hi.1 hget, by rw [hget]; rfl⟩

/-- `h'` is well formed and clean, nothing was freed, and every map of `h` has its content -/
structure Grows (h h' : Heap) : Prop where
  inv  : Inv h'
  mono : h.next ≤ h'.next
  same : SameBelow h h'

theorem Grows.get {h h' : Heap} (hg : Grows h h') {x : Addr} (hx : x < h.next) : h'.get x = h.get x :=
  hg.same x hx

theorem Grows.refl {h : Heap} (hi : Inv h) : Grows h h := ⟨hi, Nat.le_refl _, fun _ _ => rfl⟩

theorem Grows.trans {a b c : Heap} (h1 : Grows a b) (h2 : Grows b c) : Grows a c :=
  ⟨h2.inv, Nat.le_trans h1.mono h2.mono,
   fun x hx => by rw [h2.get (Nat.lt_of_lt_of_le hx h1.mono), h1.get hx]⟩

theorem Grows.alloc {h : Heap} (hi : Inv h) {b : Bs} (hb : NoDupKeys b) : Grows h (h.alloc b).1 :=
  ⟨inv_cons hi (Nat.lt_succ_self _) (Nat.le_succ _) hb, Nat.le_succ _,
   fun x hx => get_alloc_ne h b x (Nat.ne_of_lt hx)⟩

theorem Grows.set_fresh {base h : Heap} (hg : Grows base h) {a : Addr} (h1 : base.next ≤ a)
    (h2 : a < h.next) {b : Bs} (hb : NoDupKeys b) : Grows base (h.set a b) :=
  ⟨inv_cons hg.inv h2 (Nat.le_refl _) hb, hg.mono,
   fun x hx => by rw [get_set_ne h a x b (Nat.ne_of_lt (Nat.lt_of_lt_of_le hx h1)), hg.get hx]⟩

theorem Grows.set_same {h : Heap} (hi : Inv h) {a : Addr} {b : Bs} (hg : h.get a = some b) :
    Grows h (h.set a b) :=
  ⟨inv_cons hi (get_lt hi.1 hg) (Nat.le_refl _) (clean_get hi.2 hg), Nat.le_refl _,
   fun x _ => by
     by_cases hx : x = a
     · subst hx; rw [get_set_self, hg]
     · exact get_set_ne h a x b hx⟩

/-- in the words of `stepH_frame` and `walkH_frame` -/
theorem Grows.frame {h h' : Heap} (g : Grows h h') : h'.WF ∧ Clean h' ∧ h.next ≤ h'.next ∧ SameBelow h h' :=
  ⟨g.inv.1, g.inv.2, g.mono, g.same⟩

theorem Grows.alloc_of {h h' : Heap} (hg : Grows h h') {x : Addr} (hx : Alloc h x) : Alloc h' x :=
  ⟨Nat.lt_of_lt_of_le hx.1 hg.mono, by rw [hg.get hx.1]; exact hx.2⟩

theorem Grows.optAlloc {h h' : Heap} (hg : Grows h h') {oa : Option Addr} (hx : OptAlloc h oa) :
    OptAlloc h' oa := fun x hy => hg.alloc_of (hx x hy)

theorem Grows.content {h h' : Heap} (hg : Grows h h') {oa : Option Addr} (hx : OptAlloc h oa) :
    content h' oa = content h oa := by
  cases oa with
  | none => rfl
  | some x => exact hg.get (hx x rfl).1

theorem content_some (h : Heap) (a : Addr) : content h (some a) = h.get a := rfl
theorem content_none (h : Heap) : content h none = none := rfl

theorem content_alloc {h : Heap} {x : Addr} (hx : Alloc h x) :
    content h (some x) = some ((h.get x).getD []) := by
  obtain ⟨b, hb⟩ := Option.isSome_iff_exists.mp hx.2
  rw [content_some, hb]
  rfl

/-! ## `restore` of bindings that are already there -/

theorem insertB_of_mem_nodup {k : String} {v : V} {bs : Bs} (hnd : NoDupKeys bs) (h : (k, v) ∈ bs) :
    insertB k v bs = bs := by
  induction bs with
  | nil => cases h
  | cons kv rest ih =>
    obtain ⟨k', v'⟩ := kv
    obtain ⟨h1, h2⟩ := List.pairwise_cons.mp hnd
    simp only [insertB]
    rcases List.mem_cons.mp h with h | h
    · cases h; simp
    · split
      · next heq => exact absurd heq.symm (h1 (k, v) h)
      · rw [ih h2 h]

theorem restore_of_subset {perm bs : Bs} (hnd : NoDupKeys bs) (h : ∀ kv ∈ perm, kv ∈ bs) :
    restore perm bs = bs := by
  induction perm with
  | nil => rfl
  | cons kv rest ih =>
    rw [restore_cons, insertB_of_mem_nodup hnd (h kv List.mem_cons_self)]
    exact ih (fun x hx => h x (List.mem_cons_of_mem _ hx))

theorem restore_permanentOf_self {bs : Bs} (hnd : NoDupKeys bs) : restore (permanentOf bs) bs = bs :=
  restore_of_subset hnd (fun _ hkv => (List.mem_filter.mp hkv).1)

theorem get_restoreH (h : Heap) (r : Addr) (p : Bs) :
    (restoreH h r p).get r = some (restore p ((h.get r).getD [])) := get_set_self _ _ _

theorem execWrapH_some {a : Act} {arg : Option Addr} {h : Heap} {r : Addr} {em : List V}
    (hr : (execWrapH a arg h).2.exe = some (some r, em)) :
    (execWrapH a arg h).1 = restoreH (a.run h arg).1 r (permanentOf (copyB (content h arg))) := by
  unfold execWrapH at hr ⊢
  rcases hx : (a.run h arg).2.exe with _ | ⟨_ | r', em'⟩ <;> simp only [hx] at hr ⊢ <;> cases hr
  rfl

/-! ## maps made since `base` -/

theorem nodup_copyB_content {h : Heap} (hi : Inv h) (bs : Option Addr) :
    NoDupKeys (copyB (content h bs)) := by
  cases bs with
  | none => exact List.Pairwise.nil
  | some x =>
    cases hg : h.get x with
    | none => simp only [content, Option.bind, hg, copyB]; exact List.Pairwise.nil
    | some b => simp only [content, Option.bind, hg, copyB]; exact clean_get hi.2 hg

/-- `a` was handed out since `base` and holds `c` in `h`, which grew out of `base`: a map the run
    made itself.  `copyH` gives one, `writeH` into one keeps it one. -/
structure Made (base h : Heap) (a : Addr) (c : Bs) : Prop where
  grows : Grows base h
  fresh : base.next ≤ a
  get   : h.get a = some c

theorem copyH_eta (h : Heap) (oa : Option Addr) : copyH h oa = ((copyH h oa).1, h.next) := rfl

section
variable {base h : Heap} {a : Addr} {c : Bs}

theorem Made.alloc (hi : Inv h) {b : Bs} (hb : NoDupKeys b) : Made h (h.alloc b).1 h.next b :=
  ⟨Grows.alloc hi hb, Nat.le_refl _, get_alloc_self _ _⟩

theorem Made.copy (hi : Inv h) (oa : Option Addr) : Made h (copyH h oa).1 h.next (copyB (content h oa)) :=
  Made.alloc hi (nodup_copyB_content hi oa)

theorem Made.lt (m : Made base h a c) : a < h.next := get_lt m.grows.inv.1 m.get

theorem Made.exists (m : Made base h a c) : Alloc h a := alloc_of_get m.grows.inv m.get

theorem Made.write (m : Made base h a c) (k : String) (v : V) :
    Made base (writeH h a k v) a (insertB k v c) := by
  unfold writeH
  rw [m.get]
  exact ⟨Grows.set_fresh m.grows m.fresh m.lt (nodup_insertB (clean_get m.grows.inv.2 m.get)),
    m.fresh, get_set_self _ _ _⟩

theorem Made.from {h0 : Heap} (g : Grows h0 base) (m : Made base h a c) : Made h0 h a c :=
  ⟨g.trans m.grows, Nat.le_trans g.mono m.fresh, m.get⟩

theorem Made.grow {h' : Heap} (m : Made base h a c) (g : Grows h h') : Made base h' a c :=
  ⟨m.grows.trans g, m.fresh, by rw [g.get m.lt]; exact m.get⟩

end

/-! ## outcomes of runs -/

/-- `x` is the outcome of a run started in `h`: the heap grew, and `Q` holds of the new heap and the
    result.  Every lemma about a function of the layer is `Ran h (f … h) Q`. -/
structure Ran {α : Type} (h : Heap) (x : Heap × α) (Q : Heap → α → Prop) : Prop where
  grows : Grows h x.1
  post  : Q x.1 x.2

theorem Ran.ret {α : Type} {h : Heap} (hi : Inv h) {r : α} {Q : Heap → α → Prop} (hq : Q h r) :
    Ran h (h, r) Q := ⟨Grows.refl hi, hq⟩

theorem Ran.after {α : Type} {h h1 : Heap} {x : Heap × α} {Q : Heap → α → Prop} (g : Grows h h1)
    (s : Ran h1 x Q) : Ran h x Q := ⟨g.trans s.grows, s.post⟩

def contents (h : Heap) (cs : List Addr) : List Bs := cs.map (fun c => (h.get c).getD [])

theorem allocAll_spec (l : List Bs) (h : Heap) (hi : Inv h) (hnd : ∀ b ∈ l, NoDupKeys b) :
    Ran h (allocAll h l) fun h' as =>
      (∀ x ∈ as, Alloc h' x) ∧ (as.map some).map (content h') = l.map some := by
  induction l generalizing h with
  | nil => exact .ret hi ⟨nofun, rfl⟩
  | cons b rest ih =>
    have m := Made.alloc hi (hnd b List.mem_cons_self)
    obtain ⟨g2, ha, hc⟩ := ih (h.alloc b).1 m.grows.inv (fun x hx => hnd x (List.mem_cons_of_mem _ hx))
    have e : allocAll h (b :: rest) =
        ((allocAll (h.alloc b).1 rest).1, h.next :: (allocAll (h.alloc b).1 rest).2) := rfl
    rw [e]
    refine ⟨m.grows.trans g2, List.forall_mem_cons.mpr ⟨(m.grow g2).exists, ha⟩, ?_⟩
    simp only [List.map_cons, content_some, (m.grow g2).get, hc]

end Sheens.C06
