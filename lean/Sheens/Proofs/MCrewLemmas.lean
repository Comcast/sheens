import Sheens.MCrew
import Sheens.Proofs.AssocLemmas

/-! # Lemmas about the mcrew service model (`MCrew.step`, `MCrew.writeAll`) -/

namespace MCrew

open Sio (find put del)

/-- what a write transaction does to a list of records -/
def applyW (st : List (String × Rec)) (changes : List (String × Option Rec)) : List (String × Rec) :=
  changes.foldl (fun st (mid, r) => match r with | some x => put mid x st | none => del mid st) st

/-- a successful write stored exactly the folded changes, and it needed the store up unless there was
    nothing to write -/
theorem writeAll_some {s : Svc} {ch : List (String × Option Rec)} {st : List (String × Rec)}
    (h : writeAll s ch = some st) : st = applyW s.store ch ∧ (ch = [] ∨ s.storeUp = true) := by
  unfold writeAll at h
  by_cases he : ch.isEmpty = true
  · rw [if_pos he] at h
    obtain rfl : ch = [] := List.isEmpty_iff.mp he
    cases h; exact ⟨rfl, .inl rfl⟩
  · rw [if_neg he] at h
    cases hu : s.storeUp <;> rw [hu] at h <;> cases h
    exact ⟨rfl, .inr rfl⟩

theorem step_add (specs : String → Option Spec) (limit : Option Int) (s : Svc) (spec id node : String)
    (bs : Option Bs) :
    let r : Rec := { spec := spec, state := { node := if node == "" then "start" else node, bs := some (copyB bs) } }
    step specs limit s (.add spec id node bs) =
      if (find id s.mem).isSome then (s, .exists_)
      else if s.storeUp then ({ s with store := put id r s.store, mem := put id r s.mem }, .ok)
      else (s, .writeFailed) := by
  intro r
  dsimp only [step, writeAll]
  by_cases hx : (find id s.mem).isSome = true
  · rw [if_pos hx, if_pos hx]
  · rw [if_neg hx, if_neg hx]
    cases s.storeUp <;> rfl

theorem step_rem (specs : String → Option Spec) (limit : Option Int) (s : Svc) (id : String) :
    step specs limit s (.rem id) =
      if s.storeUp then ({ s with store := del id s.store, mem := del id s.mem }, .ok)
      else (s, .writeFailed) := by
  dsimp only [step, writeAll]
  cases s.storeUp <;> rfl

/-- What one operation can do: fail and change nothing; flip the store switch; or apply one list of
    changes to the store and to memory alike — which needs the store up, unless there is nothing
    to write. -/
theorem op_cases (specs : String → Option Spec) (limit : Option Int) (s : Svc) (op : Op) :
    (∃ r, r ≠ .ok ∧ step specs limit s op = (s, r)) ∨
    (∃ b, (b = true ↔ op = .storeUp) ∧ step specs limit s op = ({ s with storeUp := b }, .ok)) ∨
    (∃ ch, (ch = [] ∨ s.storeUp = true) ∧
      step specs limit s op = ({ s with store := applyW s.store ch, mem := applyW s.mem ch }, .ok)) := by
  cases op with
  | storeDown => exact .inr (.inl ⟨false, by simp, rfl⟩)
  | storeUp => exact .inr (.inl ⟨true, by simp, rfl⟩)
  | add spec id node bs =>
    rw [step_add]
    by_cases hx : (find id s.mem).isSome = true
    · rw [if_pos hx]
      exact .inl ⟨.exists_, nofun, rfl⟩
    · rw [if_neg hx]
      cases s.storeUp
      · exact .inl ⟨.writeFailed, nofun, rfl⟩
      · exact .inr (.inr ⟨[(id, some _)], .inr rfl, rfl⟩)
  | rem id =>
    rw [step_rem]
    cases s.storeUp
    · exact .inl ⟨.writeFailed, nofun, rfl⟩
    · exact .inr (.inr ⟨[(id, none)], .inr rfl, rfl⟩)
  | process msg =>
    dsimp only [step]
    cases walkAll specs limit s msg (route s msg) with
    | none => exact .inl ⟨.specError, nofun, rfl⟩
    | some changed =>
      dsimp only
      cases hw : writeAll s (changed.map fun (mid, r) => (mid, some r)) with
      | none => exact .inl ⟨.writeFailed, nofun, rfl⟩
      | some st =>
        obtain ⟨rfl, hup⟩ := writeAll_some hw
        exact .inr (.inr ⟨_, hup, by unfold applyW; rw [List.foldl_map, List.foldl_map]⟩)

end MCrew
