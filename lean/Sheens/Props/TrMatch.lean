import Sheens.Proofs.GoExec
import Sheens.Gen.GoAst
import Sheens.Match
open Go Gen.GoAst

/-!
# Tie C, proved part: the translated leaf functions of `match/match.go`

`Gen.GoAst.matchProg` is what `go/go2lean` made of `match/match.go` on this run; `callFn` is
the interpreter of `GoSem.lean`.  Each theorem says, for **all** arguments, heaps and enough
fuel, that running the translated declaration returns what the hand-written model's function
returns — so the theorems about the model (C01–C03) speak about these functions of the
source as it is now, not about a transcription of them.  A change to one of these functions
changes the regenerated syntax, and the proof no longer checks.

`simp` rewrites a callee with its theorem `tr_…`, whose fuel `n + bound` matches any `j + c` with
`bound ≤ c` (`Copy`, whose bound is not a numeral, has a form `Copy_call` for any fuel from the bound on).
-/

namespace Sheens.TrMatch

theorem matchProg_names : (matchProg.fns.map (·.name)).Nodup := by decide +kernel

@[simp] theorem prefix_q (s : String) : (['?'].isPrefixOf s.toList) = isVar s := by
  unfold isVar
  split <;> rename_i h
  · simp [h]
  · cases hs : s.toList with
    | nil => rfl
    | cons c cs => simp [List.isPrefixOf]; rintro rfl; exact h _ hs

/-- the translated `Matcher.IsVariable` computes the model's `isVar` -/
theorem tr_IsVariable (n : Nat) (g : Env) (m : GV) (s : String) (h : Heap) :
    callFn (n + 10) matchProg g ".IsVariable" m [.str s] h = .ok ([.bool (isVar s)], h) := by
  refine callFn_run matchProg_names matchProg_MIsVariable ?_
  simp [matchProg_MIsVariable]

-- as a simp lemma it rewrites a call with any fuel `j + c`, `10 ≤ c`; so do the others below
attribute [simp] tr_IsVariable

/-- `Matcher.IsOptionalVariable` on any interface value -/
def isOptVarG : GV → Bool
  | .str s => ['?', '?'].isPrefixOf s.toList
  | _ => false

theorem tr_IsOptionalVariable (n : Nat) (g : Env) (m x : GV) (h : Heap) :
    callFn (n + 12) matchProg g ".IsOptionalVariable" m [x] h = .ok ([.bool (isOptVarG x)], h) := by
  refine callFn_run matchProg_names matchProg_MIsOptionalVariable ?_
  simp [matchProg_MIsOptionalVariable]
  by_cases hx : typeOf h x = GT.str
  · obtain ⟨s, rfl⟩ := typeOf_inv hx
    simp [isOptVarG]
  · simp [hx]
    cases x <;> simp [isOptVarG] at hx ⊢

theorem isOptVarG_str (s : String) : isOptVarG (.str s) = isOptVar (.str s) := by
  simp only [isOptVarG, isOptVar]
  split <;> rename_i h
  · simp [h]
  · cases hs : s.toList with
    | nil => rfl
    | cons c cs =>
      cases cs with
      | nil => simp [List.isPrefixOf]
      | cons d ds => simp [List.isPrefixOf]; rintro rfl rfl; exact h _ hs

theorem tr_IsAnonymousVariable (n : Nat) (g : Env) (m : GV) (s : String) (h : Heap) :
    callFn (n + 10) matchProg g ".IsAnonymousVariable" m [.str s] h = .ok ([.bool (isAnon s)], h) := by
  refine callFn_run matchProg_names matchProg_MIsAnonymousVariable ?_
  simp [matchProg_MIsAnonymousVariable, isAnon]

theorem tr_IsConstant (n : Nat) (g : Env) (m : GV) (s : String) (h : Heap) :
    callFn (n + 20) matchProg g ".IsConstant" m [.str s] h = .ok ([.bool (!isVar s)], h) := by
  refine callFn_run matchProg_names matchProg_MIsConstant ?_
  simp [matchProg_MIsConstant]


/-- `fudge` on interface values: every numeric Go type becomes `float64` -/
def fudgeG : GV → GV
  | .numT _ i => .f64 i
  | .int i => .f64 i
  | v => v

@[simp] theorem fudgeG_str (s : String) : fudgeG (.str s) = .str s := rfl
@[simp] theorem fudgeG_ref (a : Nat) : fudgeG (.ref a) = .ref a := rfl
@[simp] theorem fudgeG_slice (xs : List GV) : fudgeG (.slice xs) = .slice xs := rfl

@[simp ↓] theorem builtin_fudge (vs : List GV) (h : Heap) : builtin "fudge" vs h = none := id rfl

theorem tr_fudge (n : Nat) (g : Env) (x : GV) (h : Heap) :
    callFn (n + 12) matchProg g "fudge" .nil [x] h = .ok ([fudgeG x], h) := by
  refine callFn_run matchProg_names matchProg_fudge ?_
  -- up to the type switch, then by the type
  simp [matchProg_fudge]
  cases x with
  | ref a => cases hh : heapGet h a <;> simp [fudgeG, typeOf, hh]
  | numT t i => cases t <;> simp [fudgeG]
  | _ => simp [fudgeG]

attribute [simp] tr_IsOptionalVariable tr_IsAnonymousVariable tr_IsConstant tr_fudge


/-! ## loops: `Bindings.Copy`, `Matcher.Match` (copies first), `Matcher.getVariable`

The state of a loop is one variable `s` (a tuple), so that `loopR_eq` reads the variables, the heap
and the result off the statement (`gv_loop`, whose statement keeps its two variables apart and which can
also return from inside the loop, goes through `loopR_rule` itself).  A long loop body is named as what it is in the regenerated
declaration (`gvBody`); the theorem about the function has unfolded the declaration when it comes to
the loop, and finds the lemma's loop in its goal by `erw`. -/

theorem heapSet_self (H : Heap) (L : Nat) (o : MapObj) (h : heapGet H L = some o) : heapSet H L o = H := by
  obtain ⟨hl, rfl⟩ := List.getElem?_eq_some_iff.mp h
  exact List.set_getElem_self hl

/-- a loop `for k, v := range … { a[k] = v }` (that of `Bindings.Copy` and that of `copyMap`): every
    entry is stored into the map `a` points to, in order; the state is what is stored so far, and the heap -/
theorem store_loop (p : Prog) (g : Env) (a src k v : String) (rb : GV) (L : Nat) (ty : String)
    (hn : a ≠ k ∧ a ≠ v ∧ k ≠ v ∧ (k = "" || k = "_") = false ∧ (v = "" || v = "_") = false) :
    ∀ (items : List (GV × GV)) (s : List (GV × GV) × Heap) (f : Nat),
    heapGet s.2 L = some { ty := ty, kvs := s.1 } → items.length + 8 ≤ f →
    loopR f p g [(a, .ref L), (src, rb)] s.2 "" k v items [GS.assign false [GL.index (GE.var a) (GE.var k)] [GE.var v]]
      = .ok (.next, [(a, .ref L), (src, rb)],
             heapSet s.2 L { ty := ty, kvs := items.foldl (fun acc kv => minsert kv.1 kv.2 acc) s.1 }) := by
  obtain ⟨hak, hav, hkv, hk, hv⟩ := hn
  refine loopR_eq _ _ 7 _ _ ?_ ?_
  · intro s hs; simp [heapSet_self _ _ _ hs]
  · rintro it items s j hs r hr
    simp [hk, hv, hak, hav, hkv, hs] at hr
    subst hr
    change ∃ s', _
    exact ⟨(minsert it.1 it.2 s.1, heapSet s.2 L _), heapGet_set_same _ hs, rfl, rfl, by simp [heapSet_set]⟩

theorem Copy_call {k : Nat} (g : Env) (H : Heap) (a : Nat) (o : MapObj) (ho : heapGet H a = some o)
    (hk : o.kvs.length + 20 ≤ k) :
    callFn k matchProg g ".Copy" (.ref a) [] H =
      .ok ([.ref H.length], H ++ [{ ty := "Bindings", kvs := o.kvs.foldl (fun acc kv => minsert kv.1 kv.2 acc) [] }]) := by
  obtain ⟨n, rfl⟩ : ∃ n, k = n + 20 := ⟨k - 20, by omega⟩
  refine callFn_run matchProg_names matchProg_MCopy ?_
  simp [matchProg_MCopy, rangeItems, heapGet_append _ ho]
  rw [store_loop _ _ "acc" "bs" "k" "v" _ _ "Bindings" (by decide) _ ([], _) _ (heapGet_append_length ..) (by omega)]
  simp [heapSet]

/-- the translated `Bindings.Copy`: a new map object with the entries of the receiver (stored one by
    one, in the receiver's order), the receiver and every other object untouched -/
theorem tr_Copy (n : Nat) (g : Env) (H : Heap) (a : Nat) (o : MapObj) (ho : heapGet H a = some o) :
    callFn (n + o.kvs.length + 20) matchProg g ".Copy" (.ref a) [] H =
      .ok ([.ref H.length], H ++ [{ ty := "Bindings", kvs := o.kvs.foldl (fun acc kv => minsert kv.1 kv.2 acc) [] }]) :=
  Copy_call g H a o ho (by omega)

/-- `Copy` of the nil map (no bindings given): a new, empty map — never nil -/
theorem tr_Copy_nil (n : Nat) (g : Env) (H : Heap) :
    callFn (n + 20) matchProg g ".Copy" .nil [] H = .ok ([.ref H.length], H ++ [{ ty := "Bindings", kvs := [] }]) := by
  refine callFn_run matchProg_names matchProg_MCopy ?_
  simp [matchProg_MCopy, rangeItems, loopR]

/-- the translated `Matcher.Match` is `match` on a copy of the given bindings: the caller's map is
    not among the arguments of anything that follows -/
theorem tr_Match_copies_first (n : Nat) (g : Env) (H : Heap) (m p f : GV) (a : Nat) (o : MapObj)
    (ho : heapGet H a = some o) :
    callFn (n + o.kvs.length + 30) matchProg g ".Match" m [p, f, .ref a] H =
      callFn (n + o.kvs.length + 26) matchProg g ".match" m [p, f, .ref H.length]
        (H ++ [{ ty := "Bindings", kvs := o.kvs.foldl (fun acc kv => minsert kv.1 kv.2 acc) [] }]) := by
  refine callFn_run matchProg_names matchProg_MMatch ?_
  simp (disch := omega) [matchProg_MMatch, Copy_call g H a o ho]
  generalize callFn _ _ _ ".match" _ _ _ = r
  cases r <;> rfl


/-- `getVariable` over the interpreter's values: the first variable (`""` = none yet) and the
    non-variables in order; a second variable is an error -/
def getVarG : List GV → String → List GV → Except String (String × List GV)
  | [], v, acc => .ok (v, acc)
  | .str s :: xs, v, acc =>
    if isVar s then
      if v = "" then getVarG xs s acc
      else if v = s then .error "repeated variables not supported"
      else .error "multiple variables not supported here"
    else getVarG xs v (acc ++ [.str s])
  | x :: xs, v, acc => getVarG xs v (acc ++ [x])

/-- the loop body of `getVariable`, taken from the regenerated declaration -/
def gvBody : List GS :=
  match matchProg_MgetVariable.body with
  | [_, _, GS.range _ _ _ _ body, _] => body
  | _ => []

theorem getVarG_nonstr (x : GV) (xs : List GV) (v : String) (acc : List GV) (hx : ∀ s, x ≠ .str s) :
    getVarG (x :: xs) v acc = getVarG xs v (acc ++ [x]) := by
  cases x with
  | str s => exact absurd rfl (hx s)
  | _ => simp [getVarG]

/-- the loop of `getVariable` from any state `v`, `acc`: one pass is the step of `getVarG` -/
theorem gv_loop (g : Env) (m xs0 : GV) (H : Heap) : ∀ (items : List (GV × GV)) (n : Nat) (v : String) (acc : List GV),
    (match getVarG (items.map (·.2)) v acc with
     | .ok (v', acc') =>
        loopR (n + items.length + 40) matchProg g [("acc", .slice acc), ("v", .str v), ("m", m), ("xs", xs0)] H "" "_" "x" items gvBody
          = .ok (.next, [("acc", .slice acc'), ("v", .str v'), ("m", m), ("xs", xs0)], H)
     | .error e =>
        ∃ env', loopR (n + items.length + 40) matchProg g [("acc", .slice acc), ("v", .str v), ("m", m), ("xs", xs0)] H "" "_" "x" items gvBody
          = .ok (.ret [.str "", .nil, .err e], env', H)) := by
  intro items n v acc
  refine loopR_rule (σ := String × List GV) (fun s => [("acc", .slice s.2), ("v", .str s.1), ("m", m), ("xs", xs0)])
    (fun _ => H) 39 (fun _ _ => True)
    (fun items s r => match getVarG (items.map (·.2)) s.1 s.2 with
      | .ok (v', acc') => r = .ok (.next, [("acc", .slice acc'), ("v", .str v'), ("m", m), ("xs", xs0)], H)
      | .error e => ∃ env', r = .ok (.ret [.str "", .nil, .err e], env', H))
    ?_ ?_ items (v, acc) _ trivial (by omega)
  · intro s _; simp [getVarG]
  · rintro ⟨ik, x⟩ items ⟨v, acc⟩ j - r hr
    simp [gvBody, matchProg_MgetVariable] at hr
    by_cases hx : typeOf H x = GT.str
    · obtain ⟨s, rfl⟩ := typeOf_inv hx
      -- up to `if m.IsVariable(s)`
      simp at hr
      cases hs : isVar s
      · simp [hs] at hr
        subst hr
        change ∃ s', _
        exact ⟨(v, acc ++ [.str s]), trivial, rfl, rfl, fun r h => by simpa [getVarG, hs] using h⟩
      · simp [hs] at hr
        by_cases hv : v = ""
        · -- the first variable: remembered, the element is skipped
          simp [hv] at hr
          subst hr
          change ∃ s', _
          exact ⟨(s, acc), trivial, rfl, rfl, fun r h => by simpa [getVarG, hs, hv] using h⟩
        · simp [hv] at hr
          by_cases hvs : v = s
          · subst hvs
            simp at hr
            subst hr
            simp [hs, hv, getVarG]
          · simp [hvs] at hr
            subst hr
            simp [hs, hv, hvs, getVarG]
    · simp [hx] at hr
      subst hr
      change ∃ s', _
      refine ⟨(v, acc ++ [x]), trivial, rfl, rfl, fun r h => ?_⟩
      rwa [List.map_cons, getVarG_nonstr x _ v acc (fun s h => hx (h ▸ rfl))]

/-- the translated `Matcher.getVariable` computes `getVarG` — the first variable of a pattern array
    and its other elements in order, or one of the two errors — and leaves the heap as it is -/
theorem tr_getVariable (n : Nat) (g : Env) (m : GV) (xs : List GV) (H : Heap) :
    callFn (n + xs.length + 50) matchProg g ".getVariable" m [.slice xs] H =
      (match getVarG xs "" [] with
       | .ok (v, acc) => .ok ([.str v, .slice acc, .nil], H)
       | .error e => .ok ([.str "", .nil, .err e], H)) := by
  obtain ⟨items, hitems, hsnd, hlen⟩ := rangeItems_slice H xs
  have hl := gv_loop g m (.slice xs) H items (n + 5) "" []
  rw [hsnd, hlen, show n + 5 + xs.length + 40 = n + xs.length + 45 by omega] at hl
  refine callFn_run matchProg_names matchProg_MgetVariable ?_
  simp [matchProg_MgetVariable, hitems]
  cases hgv : getVarG xs "" [] with
  | ok r => obtain ⟨v, acc⟩ := r; rw [hgv] at hl; erw [hl]; simp
  | error e => rw [hgv] at hl; obtain ⟨env', hl⟩ := hl; erw [hl]; simp


def cfbBody : List GS :=
  match matchProg_McheckForBadPropertyVariables.body with
  | [_, _, GS.range _ _ _ _ body, _] => body
  | _ => []

/-- the first key that is a variable -/
def firstVarKey : List (GV × GV) → Option String
  | [] => none
  | (.str s, _) :: rest => if isVar s then some s else firstVarKey rest
  | _ :: rest => firstVarKey rest

def badKeyPre : String := "can't have a variable as a key (\""
def badKeyPost : String := "\") with other keys"

theorem firstVarKey_var {s : String} (iv : GV) (rest : List (GV × GV)) (h : isVar s = true) :
    firstVarKey ((.str s, iv) :: rest) = some s := by simp [firstVarKey, h]
theorem firstVarKey_nonvar {s : String} (iv : GV) (rest : List (GV × GV)) (h : isVar s = false) :
    firstVarKey ((.str s, iv) :: rest) = firstVarKey rest := by simp [firstVarKey, h]

/-- the loop of `checkForBadPropertyVariables` returns at the first key that is a variable -/
theorem cfb_loop (g : Env) (m pat : GV) (H : Heap) : ∀ (items : List (GV × GV)) (_ : Unit) (f : Nat),
    (∀ kv ∈ items, ∃ s, kv.1 = .str s) → items.length + 30 ≤ f →
    loopR f matchProg g [("m", m), ("pattern", pat)] H "" "k" "" items cfbBody =
      .ok (match firstVarKey items with
           | none => .next
           | some k => .ret [.err (badKeyPre ++ k ++ badKeyPost)], [("m", m), ("pattern", pat)], H) := by
  refine loopR_eq _ _ 29 _ _ ?_ ?_
  · intro _ _; rfl
  · rintro ⟨ik, iv⟩ items _ j hI r hr
    obtain ⟨s, rfl⟩ : ∃ s, ik = .str s := hI _ (List.mem_cons_self ..)
    simp [cfbBody, matchProg_McheckForBadPropertyVariables] at hr
    cases hv : isVar s
    · simp [hv] at hr
      subst hr
      change ∃ s', _
      exact ⟨(), fun kv h => hI kv (List.mem_cons_of_mem _ h), rfl, rfl, by rw [firstVarKey_nonvar _ _ hv]⟩
    · simp [hv] at hr
      subst hr
      simp [hv, firstVarKey_var, badKeyPre, badKeyPost]

/-- what `checkForBadPropertyVariables` returns for a pattern map with entries `kvs` -/
def cfbResult (kvs : List (GV × GV)) : GV :=
  if kvs.length ≤ 1 then .nil
  else match firstVarKey kvs with
    | none => .nil
    | some k => .err (badKeyPre ++ k ++ badKeyPost)

/-- the translated `checkForBadPropertyVariables`: an error exactly when the pattern map has more
    than one key and one of them is a variable (the first such key, in iteration order, is named) -/
theorem tr_checkForBadPropertyVariables (n : Nat) (g : Env) (H : Heap) (am ap : Nat) (mo po : MapObj)
    (hm : heapGet H am = some mo) (hC : mlookup (.str "CheckForBadPropertyVariables") mo.kvs = some (.bool true))
    (hp : heapGet H ap = some po) (hk : ∀ kv ∈ po.kvs, ∃ s, kv.1 = .str s) :
    callFn (n + po.kvs.length + 40) matchProg g ".checkForBadPropertyVariables" (.ref am) [.ref ap] H =
      .ok ([cfbResult po.kvs], H) := by
  refine callFn_run matchProg_names matchProg_McheckForBadPropertyVariables ?_
  unfold cfbResult
  by_cases hlen : po.kvs.length ≤ 1
  · have : ((po.kvs.length : Int) ≤ 1) := by omega
    simp [matchProg_McheckForBadPropertyVariables, hm, hC, hp, hlen, this]
  · have hnot : ¬ ((po.kvs.length : Int) ≤ 1) := by omega
    simp [matchProg_McheckForBadPropertyVariables, hm, hC, hp, hlen, hnot, rangeItems]
    erw [cfb_loop g _ _ H po.kvs () _ hk (by omega)]
    cases firstVarKey po.kvs <;> rfl

theorem firstVarKey_isSome (kvs : List (String × V)) (conv : V → GV) :
    (firstVarKey (kvs.map (fun kv => (GV.str kv.1, conv kv.2)))).isSome = kvs.any (fun kv => isVar kv.1) := by
  induction kvs with
  | nil => simp [firstVarKey]
  | cons kv rest ih => cases hv : isVar kv.1 <;> simp [firstVarKey, hv, ih]

/-- … which is the model's `checkBadPropVars` on the keys -/
theorem cfbResult_err_iff (kvs : List (String × V)) (conv : V → GV) :
    (cfbResult (kvs.map (fun kv => (GV.str kv.1, conv kv.2))) ≠ .nil) ↔ checkBadPropVars kvs = true := by
  have h := firstVarKey_isSome kvs conv
  unfold cfbResult checkBadPropVars
  by_cases hl : kvs.length ≤ 1
  · have : ¬ (kvs.length > 1) := by omega
    simp [hl, this]
  · have : kvs.length > 1 := by omega
    simp only [List.length_map, hl, if_false]
    cases hf : firstVarKey (kvs.map (fun kv => (GV.str kv.1, conv kv.2))) <;> rw [hf] at h <;> simp at h <;>
      simp [this] <;> exact h


/-- a value that is a (possibly nil) slice -/
def IsSlice (x : GV) : Prop := x = .nil ∨ ∃ xs, x = .slice xs

def elemsOf : GV → List GV
  | .slice xs => xs
  | _ => []

theorem sliceElems_of {x : GV} (h : IsSlice x) : sliceElems x = some (elemsOf x) := by
  rcases h with h | ⟨xs, h⟩ <;> subst h <;> rfl

/-- Go's `append(x, y...)` on slice values -/
def appendG (x y : GV) : GV :=
  if (elemsOf x).isEmpty && (elemsOf y).isEmpty then x else .slice (elemsOf x ++ elemsOf y)

theorem appendG_isSlice {x y : GV} (hx : IsSlice x) : IsSlice (appendG x y) := by
  unfold appendG; split
  · exact hx
  · exact Or.inr ⟨_, rfl⟩

theorem elemsOf_appendG (x y : GV) : elemsOf (appendG x y) = elemsOf x ++ elemsOf y := by
  unfold appendG; split
  · next h => simp at h; simp [h.1, h.2]
  · rfl

theorem combine_loop (g : Env) (x0 : GV) (H : Heap) : ∀ (items : List (GV × GV)) (acc : GV) (f : Nat),
    (IsSlice acc ∧ ∀ it ∈ items, IsSlice it.2) → items.length + 20 ≤ f →
    loopR f matchProg g [("nbss", acc), ("bsss", x0)] H "" "_" "bss" items
        [GS.assign false [GL.var "nbss"] [GE.call "append..." [GE.var "nbss", GE.var "bss"]]]
      = .ok (.next, [("nbss", items.foldl (fun a it => appendG a it.2) acc), ("bsss", x0)], H) := by
  refine loopR_eq _ _ 19 _ _ ?_ ?_
  · intro _ _; rfl
  · rintro it items acc j ⟨hacc, hall⟩ r hr
    have hit : IsSlice it.2 := hall it (List.mem_cons_self ..)
    simp [-sliceElems, sliceElems_of hacc, sliceElems_of hit] at hr
    subst hr
    change ∃ s', _
    exact ⟨appendG acc it.2, ⟨appendG_isSlice hacc, fun x h => hall x (List.mem_cons_of_mem _ h)⟩, by simp [appendG], rfl, rfl⟩

/-- what `combine` returns: nil for no lists, the one list itself, otherwise the lists appended -/
def combineG : List GV → GV
  | [] => .nil
  | [x] => x
  | xs => xs.foldl appendG .nil

theorem foldl_appendG_elems (xs : List GV) : ∀ acc, elemsOf (xs.foldl appendG acc) = elemsOf acc ++ xs.flatMap elemsOf := by
  induction xs with
  | nil => intro acc; simp
  | cons x xs ih => intro acc; simp [List.foldl, ih, elemsOf_appendG, List.append_assoc]

/-- the binding sets of `combine`'s result are those of its arguments, in order (`List.flatten` in the model) -/
theorem combineG_elems (xs : List GV) : elemsOf (combineG xs) = xs.flatMap elemsOf := by
  match xs with
  | [] => rfl
  | [x] => simp [combineG]
  | x :: y :: r =>
    unfold combineG
    rw [foldl_appendG_elems]; simp [elemsOf]

theorem tr_combine (n : Nat) (g : Env) (H : Heap) (bsss : List GV) (hall : ∀ x ∈ bsss, IsSlice x) :
    callFn (n + bsss.length + 40) matchProg g "combine" .nil [.slice bsss] H = .ok ([combineG bsss], H) := by
  refine callFn_run matchProg_names matchProg_combine ?_
  match bsss, hall with
  | [], _ => simp [matchProg_combine, combineG]
  | [x], _ => simp [matchProg_combine, combineG]
  | x :: y :: r, hall =>
    obtain ⟨items, hitems, hsnd, hlen⟩ := rangeItems_slice H (x :: y :: r)
    have e1 : ((r.length : Int) + 1 + 1 == 0) = false := by rw [beq_eq_false_iff_ne]; omega
    have e2 : ((r.length : Int) + 1 + 1 == 1) = false := by rw [beq_eq_false_iff_ne]; omega
    simp [matchProg_combine, e1, e2, hitems]
    rw [combine_loop g _ H items .nil _ ⟨Or.inl rfl, fun it h => hall _ (hsnd ▸ List.mem_map_of_mem h)⟩
      (by simp at hlen; omega)]
    simp [combineG, ← hsnd, List.foldl_map]

/-- what `Bindings.Copy` makes of a map object -/
def copyObj (o : MapObj) : MapObj :=
  { ty := "Bindings", kvs := o.kvs.foldl (fun acc kv => minsert kv.1 kv.2 acc) [] }

/-- the new addresses: `H.length`, `H.length + 1`, … -/
def freshRefs (base k : Nat) : List GV := (List.range k).map (fun i => GV.ref (base + i))

theorem freshRefs_succ (base k : Nat) : freshRefs base (k + 1) = GV.ref base :: freshRefs (base + 1) k := by
  unfold freshRefs
  rw [List.range_succ_eq_map]
  simp [List.map_map, Function.comp_def, Nat.add_assoc, Nat.add_comm 1]

/-- the loop of `copyBindingss`: the state is the heap, the copies so far and the objects still to copy -/
theorem cb_loop (g : Env) (x0 : GV) (K : Nat) :
    ∀ (items : List (GV × GV)) (s : Heap × List GV × List (Nat × MapObj)) (f : Nat),
    (items.map (·.2) = s.2.2.map (fun p => GV.ref p.1) ∧ (∀ p ∈ s.2.2, heapGet s.1 p.1 = some p.2) ∧
      ∀ p ∈ s.2.2, p.2.kvs.length ≤ K) → items.length + (K + 39) + 1 ≤ f →
    loopR f matchProg g [("acc", .slice s.2.1), ("bss", x0)] s.1 "" "_" "bs" items
        [GS.assign false [GL.var "acc"] [GE.call "append" [GE.var "acc", GE.mcall (GE.var "bs") ".Copy" []]]]
      = .ok (.next, [("acc", .slice (s.2.1 ++ freshRefs s.1.length s.2.2.length)), ("bss", x0)],
          s.1 ++ s.2.2.map (fun p => copyObj p.2)) := by
  refine loopR_eq _ _ _ _ _ ?_ ?_
  · rintro ⟨H, acc, objs⟩ ⟨hi, -, -⟩
    obtain rfl : objs = [] := by simpa using hi.symm
    simp [freshRefs]
  · rintro ⟨ik, iv⟩ items ⟨H, acc, objs⟩ j ⟨hi, hget, hK⟩ r hr
    match objs, hi with
    | (a, o) :: objs, hi =>
      obtain ⟨rfl, hi'⟩ : iv = .ref a ∧ items.map (·.2) = objs.map (fun p => GV.ref p.1) := by simpa using hi
      have ho : heapGet H a = some o := hget (a, o) (List.mem_cons_self ..)
      have hKo : o.kvs.length ≤ K := hK (a, o) (List.mem_cons_self ..)
      rw [← Nat.add_assoc] at hr
      simp [Copy_call g H a o ho (k := j + K + 31) (by omega)] at hr
      subst hr
      change ∃ s', _
      refine ⟨(H ++ [copyObj o], acc ++ [.ref H.length], objs),
        ⟨hi', fun p hp => heapGet_append _ (hget p (List.mem_cons_of_mem _ hp)),
          fun p hp => hK p (List.mem_cons_of_mem _ hp)⟩, rfl, rfl, ?_⟩
      simp [freshRefs_succ, List.append_assoc]

/-- the translated `copyBindingss`: one new map object per given map — the given maps' entries, the
    given maps themselves and everything else on the heap untouched — and the result lists the new
    objects only: no result shares a map with an argument -/
theorem tr_copyBindingss (n K : Nat) (g : Env) (H : Heap) (objs : List (Nat × MapObj))
    (hget : ∀ p ∈ objs, heapGet H p.1 = some p.2) (hK : ∀ p ∈ objs, p.2.kvs.length ≤ K) :
    callFn (n + objs.length + K + 50) matchProg g "copyBindingss" .nil [.slice (objs.map (fun p => GV.ref p.1))] H =
      .ok ([.slice (freshRefs H.length objs.length)], H ++ objs.map (fun p => copyObj p.2)) := by
  obtain ⟨items, hitems, hsnd, hlen⟩ := rangeItems_slice H (objs.map (fun p => GV.ref p.1))
  refine callFn_run matchProg_names matchProg_copyBindingss ?_
  simp [matchProg_copyBindingss, hitems]
  rw [cb_loop g _ K items (H, [], objs) _ ⟨hsnd, hget, hK⟩ (by simp at hlen; omega)]
  simp


/-! ## `Matches`, `Match` (package function) -/

/-- the translated `Matcher.Matches` is `Match` with a new, empty bindings map -/
theorem tr_Matches (n : Nat) (g : Env) (H : Heap) (m p f : GV) :
    callFn (n + 20) matchProg g ".Matches" m [p, f] H =
      callFn (n + 16) matchProg g ".Match" m [p, f, .ref H.length] (H ++ [{ ty := "Bindings", kvs := [] }]) := by
  refine callFn_run matchProg_names matchProg_MMatches ?_
  simp [matchProg_MMatches]
  generalize callFn _ _ _ ".Match" _ _ _ = r
  cases r <;> rfl

/-- the package function `Match` is `DefaultMatcher.Match` -/
theorem tr_MatchFn (n : Nat) (g : Env) (H : Heap) (dm p f bs : GV) (hg : envGet "DefaultMatcher" g = some dm) :
    callFn (n + 20) matchProg g "Match" .nil [p, f, bs] H = callFn (n + 16) matchProg g ".Match" dm [p, f, bs] H := by
  refine callFn_run matchProg_names matchProg_Match ?_
  simp [matchProg_Match, hg]
  generalize callFn _ _ _ ".Match" _ _ _ = r
  cases r <;> rfl


/-- the translated `copyMap` (the candidate index of `arraycatMatch`): a new map object with the
    entries of the given one; the given one is not written -/
theorem tr_copyMap (n : Nat) (g : Env) (H : Heap) (a : Nat) (o : MapObj) (ho : heapGet H a = some o) :
    callFn (n + o.kvs.length + 20) matchProg g "copyMap" .nil [.ref a] H =
      .ok ([.ref H.length], H ++ [{ ty := "map[int]interface{}", kvs := o.kvs.foldl (fun acc kv => minsert kv.1 kv.2 acc) [] }]) := by
  refine callFn_run matchProg_names matchProg_copyMap ?_
  simp [matchProg_copyMap, rangeItems, heapGet_append _ ho]
  rw [store_loop _ _ "target" "source" "p" "v" _ _ "map[int]interface{}" (by decide) _ ([], _) _
    (heapGet_append_length ..) (by omega)]
  simp [heapSet]


/-! ## `matchWithBindingss` (relative to what `Match` does on one bindings map) -/

def mwbBody : List GS :=
  match matchProg_MmatchWithBindingss.body with
  | [_, GS.range _ _ _ _ body, _] => body
  | _ => []

/-- `matchWithBindingss`, given what `Match` does on one bindings map (`M`): the results in order,
    a nil result skipped, the first error handed back with a nil result -/
def mwbSpec (M : GV → Heap → R (List GV × Heap)) : List GV → List GV → Heap → R (Flow × List GV × Heap)
  | [], acc, H => .ok (.next, acc, H)
  | b :: bs, acc, H =>
    match M b H with
    | .error e => .error e
    | .ok ([r, .nil], H') =>
      (match r with
       | .nil => mwbSpec M bs acc H'
       | .slice xs => mwbSpec M bs (acc ++ xs) H'
       | _ => .error (.stuck "append..."))
    | .ok ([_, e], H') => .ok (.ret [.nil, e], acc, H')
    | .ok _ => .error (.stuck "assignment count")

theorem mwbSpec_err {M : GV → Heap → R (List GV × Heap)} {b r e : GV} {H H' : Heap} (bs acc : List GV)
    (hm : M b H = .ok ([r, e], H')) (he : e ≠ .nil) : mwbSpec M (b :: bs) acc H = .ok (.ret [.nil, e], acc, H') := by
  cases e <;> simp_all [mwbSpec]

theorem mwbSpec_bad {M : GV → Heap → R (List GV × Heap)} {b r : GV} {H H' : Heap} (bs acc : List GV)
    (hm : M b H = .ok ([r, .nil], H')) (hn : r ≠ .nil) (hs : ∀ xs, r ≠ .slice xs) :
    mwbSpec M (b :: bs) acc H = .error (.stuck "append...") := by
  cases r <;> simp_all [mwbSpec]

/-- the loop of `matchWithBindingss`: the state is the results so far and the heap (no invariant) -/
theorem mwb_loop (g : Env) (m p f x0 : GV) (M : GV → Heap → R (List GV × Heap)) (K : Nat)
    (hM : ∀ k, K ≤ k → ∀ b H, callFn k matchProg g ".Match" m [p, f, b] H = M b H) :
    ∀ (items : List (GV × GV)) (s : List GV × Heap) (fu : Nat), True → items.length + (K + 29) + 1 ≤ fu →
    loopR fu matchProg g [("acc", .slice s.1), ("m", m), ("bss", x0), ("pattern", p), ("fact", f)] s.2 "" "_" "bs" items mwbBody =
      (match mwbSpec M (items.map (·.2)) s.1 s.2 with
       | .error e => .error e
       | .ok (fl, acc', H') => .ok (fl, [("acc", .slice acc'), ("m", m), ("bss", x0), ("pattern", p), ("fact", f)], H')) := by
  refine loopR_eq _ _ _ _ _ ?_ ?_
  · intro _ _; rfl
  · rintro ⟨ik, b⟩ items ⟨acc, H⟩ j - r hr
    rw [← Nat.add_assoc] at hr
    -- up to what `Match` returns
    simp [mwbBody, matchProg_MmatchWithBindingss, hM (j + K + 25) (by omega) b H] at hr
    simp only [List.map_cons]
    cases hm : M b H with
    | error e => simp [hm] at hr; subst hr; simp [mwbSpec, hm]
    | ok res =>
      obtain ⟨vs, H'⟩ := res
      match vs with
      | [] | [_] | _ :: _ :: _ :: _ => simp [hm] at hr; subst hr; simp [mwbSpec, hm]
      | [r, e] =>
        by_cases he : e = .nil
        · subst he
          by_cases hn : r = .nil
          · subst hn
            simp [hm] at hr
            subst hr
            change ∃ s', _
            exact ⟨(acc, H'), trivial, rfl, rfl, by simp only [mwbSpec, hm]⟩
          · by_cases hs : ∃ xs, r = .slice xs
            · obtain ⟨xs, rfl⟩ := hs
              simp [hm] at hr
              subst hr
              change ∃ s', _
              exact ⟨(acc ++ xs, H'), trivial, rfl, rfl, by simp only [mwbSpec, hm]⟩
            · simp [hm, -sliceElems, ↓goEq_nil_left hn, sliceElems_none hn (fun xs h => hs ⟨xs, h⟩)] at hr
              subst hr
              simp [mwbSpec_bad _ _ hm hn (fun xs h => hs ⟨xs, h⟩)]
        · simp [hm, ↓goEq_nil_left he] at hr
          subst hr
          simp [mwbSpec_err _ _ hm he]

/-- the translated `matchWithBindingss`, given what `Match` does on one bindings map: `Match` is
    called once per bindings map, in order, on the heap the previous call left; the first error ends
    the loop and comes back with a nil result; nil results are skipped; the others are appended in
    order -/
theorem tr_matchWithBindingss (n K : Nat) (g : Env) (m p f : GV) (H : Heap) (bss : List GV)
    (M : GV → Heap → R (List GV × Heap))
    (hM : ∀ k, K ≤ k → ∀ b H, callFn k matchProg g ".Match" m [p, f, b] H = M b H) :
    callFn (n + K + bss.length + 40) matchProg g ".matchWithBindingss" m [.slice bss, p, f] H =
      (match mwbSpec M bss [] H with
       | .error e => .error e
       | .ok (.next, acc, H') => .ok ([.slice acc, .nil], H')
       | .ok (.ret vs, _, H') => .ok (vs, H')
       | .ok _ => .error (.stuck "break/continue left a function")) := by
  obtain ⟨items, hitems, hsnd, hlen⟩ := rangeItems_slice H bss
  refine callFn_run matchProg_names matchProg_MmatchWithBindingss ?_
  simp [matchProg_MmatchWithBindingss, hitems]
  erw [mwb_loop g m p f _ M K hM items ([], H) _ trivial (by omega)]
  rw [hsnd]
  cases mwbSpec M bss [] H with
  | error e => simp
  | ok r => obtain ⟨fl, acc, H'⟩ := r; cases fl <;> simp [retOf]


/-! ## `Bindings.Extend`, `NewBindings` -/

/-- `Bindings.Extend` writes into the receiver and hands the receiver back (which is why the engine
    only ever calls it on a copy) -/
theorem tr_Extend (n : Nat) (g : Env) (H : Heap) (a : Nat) (o : MapObj) (p : String) (v : GV) (ho : heapGet H a = some o) :
    callFn (n + 12) matchProg g ".Extend" (.ref a) [.str p, v] H =
      .ok ([.ref a], heapSet H a { o with kvs := minsert (.str p) v o.kvs }) := by
  refine callFn_run matchProg_names matchProg_MExtend ?_
  simp [matchProg_MExtend, ho]

/-- `NewBindings` is a new, empty map -/
theorem tr_NewBindings (n : Nat) (g : Env) (H : Heap) :
    callFn (n + 10) matchProg g "NewBindings" .nil [] H = .ok ([.ref H.length], H ++ [{ ty := "Bindings", kvs := [] }]) := by
  refine callFn_run matchProg_names matchProg_NewBindings ?_
  simp [matchProg_NewBindings]

end Sheens.TrMatch
