import Sheens.Tools
import Sheens.Proofs.ToolsLemmas

/-!
# Property C20 — analysis and graph renderings are faithful to the spec

Over the structural model `Tools.analyze` / `Tools.render` (both renderers emit the same structure),
for all spec graphs (node names distinct, as in a Go map).
-/

namespace Sheens.C20

open Tools

def Distinct (s : TSpec) : Prop := (s.map (·.1)).Nodup

/-- Missing targets: exactly the non-variable branch targets that are not nodes. -/
theorem missing_exact (s : TSpec) (t : String) :
    t ∈ (analyze s).missing ↔
      ∃ b ∈ allBranches s, b.target = t ∧ isTargetVar t = false ∧ hasNode s t = false := by
  simp only [analyze, mem_dedupS, List.mem_filter, List.mem_map, Bool.and_eq_true,
    Bool.not_eq_true']
  constructor
  · rintro ⟨⟨b, hb, rfl⟩, h1, h2⟩; exact ⟨b, hb, rfl, h1, h2⟩
  · rintro ⟨b, hb, rfl, h1, h2⟩; exact ⟨⟨b, hb, rfl⟩, h1, h2⟩

/-- Branch target variables: exactly the variable targets. -/
theorem targetVars_exact (s : TSpec) (t : String) :
    t ∈ (analyze s).targetVars ↔ ∃ b ∈ allBranches s, b.target = t ∧ isTargetVar t = true := by
  simp only [analyze, mem_dedupS, List.mem_filter, List.mem_map]
  constructor
  · rintro ⟨⟨b, hb, rfl⟩, h1⟩; exact ⟨b, hb, rfl, h1⟩
  · rintro ⟨b, hb, rfl, h1⟩; exact ⟨⟨b, hb, rfl⟩, h1⟩

/-- Terminal nodes: exactly the nodes without branches. -/
theorem terminal_exact (s : TSpec) (n : String) :
    n ∈ (analyze s).terminal ↔ ∃ nd, (n, nd) ∈ s ∧ branchesOf nd = [] := by
  simp only [analyze, List.mem_map, List.mem_filter, List.isEmpty_iff]
  constructor
  · rintro ⟨⟨n', nd⟩, ⟨hp, he⟩, rfl⟩; exact ⟨nd, hp, he⟩
  · rintro ⟨nd, hp, he⟩; exact ⟨(n, nd), ⟨hp, he⟩, rfl⟩

/-- Orphans: exactly the nodes no branch targets. -/
theorem orphans_exact (s : TSpec) (n : String) :
    n ∈ (analyze s).orphans ↔ (n ∈ s.map (·.1) ∧ ∀ b ∈ allBranches s, b.target ≠ n) := by
  simp only [analyze, List.mem_filter, Bool.not_eq_true', List.contains_eq_mem,
    decide_eq_false_iff_not, List.mem_map, not_exists, not_and]

/-- The counts are those of the spec graph. -/
theorem counts_exact (s : TSpec) :
    (analyze s).nodeCount = s.length ∧
    (analyze s).branches = (s.map (fun p => (branchesOf p.2).length)).sum ∧
    (analyze s).actions = (s.filter (fun p => p.2.hasAction)).length ∧
    (analyze s).guards = (s.map (fun p => ((branchesOf p.2).filter (·.hasGuard)).length)).sum := by
  refine ⟨rfl, List.length_flatMap, rfl, ?_⟩
  show ((allBranches s).filter (·.hasGuard)).length = _
  rw [allBranches, List.filter_flatMap, List.length_flatMap]

/-- Interpreters: those named by an action source or a guard source, or "default" when none is. -/
theorem interpreters_exact (s : TSpec) (i : String) :
    i ∈ (analyze s).interpreters ↔
      ((∃ p ∈ s, p.2.actionInterp = some i) ∨ (∃ b ∈ allBranches s, b.guardInterp = some i)) ∨
      ((∀ p ∈ s, p.2.actionInterp = none) ∧ (∀ b ∈ allBranches s, b.guardInterp = none) ∧ i = "default") := by
  show i ∈ (if ((s.filterMap (fun p => p.2.actionInterp)) ++ ((allBranches s).filterMap (·.guardInterp))).isEmpty
      then ["default"] else dedupS _) ↔ _
  -- both sides speak of the list of named interpreters only: of its members, and of its being empty
  rw [← and_assoc, ← List.filterMap_eq_nil_iff, ← List.filterMap_eq_nil_iff, ← List.append_eq_nil_iff,
    ← List.mem_filterMap, ← List.mem_filterMap, ← List.mem_append]
  generalize (s.filterMap (fun p => p.2.actionInterp)) ++ ((allBranches s).filterMap (·.guardInterp)) = l
  cases l with
  | nil => simp
  | cons j js => simp [mem_dedupS]

/-- The renderings declare exactly the spec's nodes and the branch targets that are not nodes
    (missing or variable targets) … -/
theorem render_nodes_exact (s : TSpec) (n : String) :
    n ∈ (render s).nodes ↔ (n ∈ s.map (·.1) ∨ ∃ b ∈ allBranches s, b.target = n) := by
  rw [render_eq]
  simp only [mem_foldl_addS, List.not_mem_nil, false_or, List.mem_flatMap, (order_perm s).mem_iff, namesOf,
    List.mem_cons, List.mem_map, mem_allBranches]
  constructor
  · rintro ⟨p, hp, rfl | ⟨b, hb, rfl⟩⟩
    · exact .inl ⟨p, hp, rfl⟩
    · exact .inr ⟨b, ⟨p, hp, hb⟩, rfl⟩
  · rintro (⟨p, hp, rfl⟩ | ⟨b, ⟨p, hp, hb⟩, rfl⟩)
    · exact ⟨p, hp, .inl rfl⟩
    · exact ⟨p, hp, .inr ⟨b, hb, rfl⟩⟩

/-- … each exactly once. -/
theorem render_nodes_once (s : TSpec) : (render s).nodes.Nodup := by
  rw [render_eq]
  exact nodup_foldl_addS _ List.nodup_nil

/-- One edge per branch, in branch order: every node with a branch list contributes exactly the list
    of its branch targets, and nothing else is drawn. -/
theorem render_edges_exact (s : TSpec) (hd : Distinct s) (name : String) (ts : List String) :
    (name, ts) ∈ (render s).edges ↔ ∃ nd bs, (name, nd) ∈ s ∧ nd.branches = some bs ∧ ts = bs.map (·.target) := by
  have _ := hd   -- distinctness is not needed
  rw [render_eq]
  simp only [List.mem_filterMap, (order_perm s).mem_iff, edgeOf, Option.map_eq_some_iff, Prod.mk.injEq]
  constructor
  · rintro ⟨⟨_, nd⟩, hp, bs, hb, rfl, rfl⟩; exact ⟨nd, bs, hp, hb, rfl⟩
  · rintro ⟨nd, bs, hp, hb, rfl⟩; exact ⟨(name, nd), hp, bs, hb, rfl, rfl⟩

theorem render_edges_count (s : TSpec) :
    (render s).edges.length = (s.filter (fun p => p.2.branches.isSome)).length := by
  rw [render_eq]
  show ((order s).filterMap edgeOf).length = _
  rw [List.length_filterMap_eq_countP, (order_perm s).countP_eq, List.countP_eq_length_filter]
  simp only [edgeOf, Option.isSome_map]

end Sheens.C20
