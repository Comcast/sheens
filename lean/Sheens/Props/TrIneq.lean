import Sheens.Props.TrMatch
open Go Gen.GoAst

/-!
# Tie C, proved part: the translated `Matcher.inequal`

`tr_inequal`: running the declaration of `inequal` that `go/go2lean` regenerated from
`match/match.go` returns, for every message value, bindings map, variable name and heap, what
`inequalG` says — the model's `inequal` line for line, over the interpreter's values, with the
model's own operator scan `ineqOf` and relation `IneqOp.rel`.  The proof follows the source in
four segments (`body_split`): the guards and the two numbers
(`seg1_run`), the operator scan — a `switch` on the byte length and a loop over the five operator
strings, which finds the first one the name starts with (`scan_loop`, `scan_ineqOf`, `seg2_run`), the
relation (`seg3a_run`), the counterpart binding with its in-place store into the bindings map
(`seg3b_run`).  Each of the first three segment lemmas says what the call returns when the body is
that segment followed by any statements `ys`: either the segment returns, or the answer is that of `ys`
in the variables the segment leaves; the last segment always returns.
-/

namespace Sheens.TrIneq

/-- statements run in sequence: a block `xs ++ ys` is `xs`, then — if control falls through — `ys`
    with what is left of the fuel -/
theorem execB_append (p : Prog) (g : Env) (ys : List GS) : ∀ (xs : List GS) (n : Nat) (env : Env) (H : Heap),
    execB (n + 1 + xs.length) p g env H (xs ++ ys) =
      (match execB (n + 1 + xs.length) p g env H xs with
       | .error e => .error e
       | .ok (.next, env1, H1) => execB (n + 1) p g env1 H1 ys
       | .ok r => .ok r) := by
  intro xs
  induction xs with
  | nil => intro n env H; simp
  | cons x xs ih =>
    intro n env H
    rw [show n + 1 + (x :: xs).length = (n + 1 + xs.length) + 1 by simp; omega]
    simp only [List.cons_append, execB]
    cases hx : execS (n + 1 + xs.length) p g env H x with
    | error e => rfl
    | ok r =>
      obtain ⟨fl, env1, H1⟩ := r
      cases fl with
      | next => simp only []; exact ih n env1 H1
      | _ => rfl

open Sheens.TrMatch

/-- `fudge(x).(float64)` on interface values -/
def asNumG : GV → Option Rat
  | .f64 q => some q
  | .int i => some i
  | .numT _ i => some i
  | _ => none

theorem fudge_num {x : GV} {q : Rat} (h : asNumG x = some q) : fudgeG x = .f64 q := by
  cases x <;> simp [asNumG, fudgeG] at h ⊢ <;> exact h

theorem fudge_nonnum (H : Heap) {x : GV} (h : asNumG x = none) : ¬ (typeOf H (fudgeG x) = GT.f64) := by
  cases x with
  | ref a => cases hh : heapGet H a <;> simp [fudgeG, typeOf, hh]
  | _ => simp [asNumG, fudgeG] at h ⊢

def seg1 : List GS := matchProg_Minequal.body.take 10
def seg2 : List GS := (matchProg_Minequal.body.drop 10).take 3
def seg3a : List GS := (matchProg_Minequal.body.drop 13).take 2
def seg3b : List GS := matchProg_Minequal.body.drop 15

theorem body_split : matchProg_Minequal.body = seg1 ++ (seg2 ++ (seg3a ++ seg3b)) := by rfl

def envA (am ab : Nat) (f : GV) (v : String) (a b : Rat) : Env :=
  [("is", .bool true), ("a", .f64 a), ("is", .bool true), ("b", .f64 b), ("have", .bool true), ("x", .f64 a),
   ("m", .ref am), ("fact", f), ("bs", .ref ab), ("v", .str v)]

/-- the lookups in `envA`, so that it stays folded -/
theorem envA_get (am ab : Nat) (f : GV) (v : String) (a b : Rat) :
    envGet "is" (envA am ab f v a b) = some (.bool true) ∧ envGet "a" (envA am ab f v a b) = some (.f64 a) ∧
    envGet "b" (envA am ab f v a b) = some (.f64 b) ∧ envGet "have" (envA am ab f v a b) = some (.bool true) ∧
    envGet "x" (envA am ab f v a b) = some (.f64 a) ∧ envGet "m" (envA am ab f v a b) = some (.ref am) ∧
    envGet "fact" (envA am ab f v a b) = some f ∧ envGet "bs" (envA am ab f v a b) = some (.ref ab) ∧
    envGet "v" (envA am ab f v a b) = some (.str v) ∧ (envA am ab f v a b).length = 10 := by
  simp [envA]

attribute [local simp] envA_get

theorem isVar_cons {v : String} (hv : isVar v = true) : ∃ rest, v.toList = '?' :: rest := by
  unfold isVar at hv
  split at hv
  · exact ⟨_, ‹_›⟩
  · cases hv

/-- statements 0–9: the switch, the leading '?', the bound and the message value as numbers -/
theorem seg1_run (ys : List GS) (n : Nat) (g : Env) (H : Heap) (am ab : Nat) (mo bo : MapObj) (f : GV)
    (v : String) (hm : heapGet H am = some mo) (hI : mlookup (.str "Inequalities") mo.kvs = some (.bool true))
    (hb : heapGet H ab = some bo) (hv : isVar v = true) :
    retOf (execB (n + 51) matchProg g [("m", .ref am), ("fact", f), ("bs", .ref ab), ("v", .str v)] H (seg1 ++ ys)) =
      (match (mlookup (.str v) bo.kvs).bind asNumG, asNumG f with
       | some b, some a => retOf (execB (n + 41) matchProg g (envA am ab f v a b) H ys)
       | _, _ => .ok ([.bool false, .nil, .nil], H)) := by
  obtain ⟨rest, hrest⟩ := isVar_cons hv
  -- up to the lookup `bs[v]`, and then to each of the two numbers
  simp [seg1, matchProg_Minequal, List.take, hm, hI, hb, hrest, leadByte]
  cases hx : mlookup (.str v) bo.kvs with
  | none => simp
  | some x =>
    simp
    cases hbn : asNumG x with
    | none => simp [fudge_nonnum H hbn]
    | some b =>
      simp [fudge_num hbn]
      cases han : asNumG f with
      | none => simp [fudge_nonnum H han]
      | some a => simp [fudge_num han, envA]


@[simp] theorem dropBytes_zero (cs : List Char) : dropBytes cs 0 = some cs := by
  cases cs <;> simp [dropBytes]

theorem int_beq_false (x y : Int) (h : x ≠ y) : (x == y) = false := by
  rw [beq_eq_false_iff_ne]; exact h

/-- `s[len(pre):]` of a string that starts with `pre` -/
theorem dropBytes_prefix (pre l : List Char) (h : pre.isPrefixOf l = true) :
    dropBytes l (byteLen pre) = some (l.drop pre.length) := by
  induction pre generalizing l with
  | nil => cases l <;> simp [dropBytes, byteLen]
  | cons c pre ih =>
    cases l with
    | nil => simp [List.isPrefixOf] at h
    | cons d l =>
      simp only [List.isPrefixOf, Bool.and_eq_true, beq_iff_eq] at h
      obtain ⟨rfl, h⟩ := h
      have := Char.utf8Size_pos c
      have hb : byteLen (c :: pre) = c.utf8Size + byteLen pre := by simp [byteLen]
      rw [hb]
      simp [dropBytes, show ¬ (c.utf8Size = 0) by omega, ih l h]

def opStr : IneqOp → String
  | .le => "<=" | .ge => ">=" | .ne => "!=" | .gt => ">" | .lt => "<"

def envB (am ab : Nat) (f : GV) (v : String) (a b : Rat) (op : IneqOp) (vv : String) : Env :=
  ("ineq", .str (opStr op)) :: ("vv", .str vv) :: envA am ab f v a b

def scanBody : List GS :=
  match seg2 with
  | [_, GS.switchV _ _ _ (some [_, GS.range _ _ _ _ body]), _] => body
  | _ => []

/-- the loop of the operator scan, for any list of operators: it stops at the first one that the name
    (without its '?': `rest`) starts with, and remembers it and what follows it -/
theorem scan_loop (g env : Env) (H : Heap) (rest : List Char) : ∀ (items : List (GV × GV)) (ops : List String) (f : Nat),
    items.map (·.2) = ops.map GV.str → items.length + 30 ≤ f →
    loopR f matchProg g (("ineqv", .str (String.ofList rest)) :: ("ineq", .str "") :: ("vv", .str "") :: env) H "" "_" "ie"
        items scanBody =
      .ok (.next, ("ineqv", .str (String.ofList rest)) ::
        (match ops.find? (fun ie => ie.toList.isPrefixOf rest) with
         | none => ("ineq", .str "") :: ("vv", .str "") :: env
         | some ie => ("ineq", .str ie) :: ("vv", .str (String.ofList ('?' :: rest.drop ie.toList.length))) :: env), H) := by
  refine loopR_eq _ _ 29 _ _ ?_ ?_
  · intro ops hi
    obtain rfl : ops = [] := by simpa using hi.symm
    rfl
  · rintro ⟨ik, iv⟩ items ops j hi r hr
    have hbody : scanBody = _ := rfl
    conv at hbody => rhs; whnf
    match ops, hi with
    | ie :: ops, hi =>
      obtain ⟨rfl, hi'⟩ : iv = .str ie ∧ items.map (·.2) = ops.map GV.str := by simpa using hi
      cases hp : ie.toList.isPrefixOf rest
      · subst hr
        simp [hbody, hp]
        exact ⟨ops, hi', rfl⟩
      · subst hr
        simp [hbody, hp, sliceV, dropBytes_prefix _ _ hp]

/-- the operators in the order in which `inequal` tries them -/
def ops : List String := ["<=", ">=", "!=", ">", "<"]

/-- the model's operator scan `ineqOf` as a search through the operators, for a name of three bytes or more -/
theorem scan_ineqOf {v : String} {rest : List Char} (hv : v.toList = '?' :: rest) (h3 : 3 ≤ byteLen v.toList) :
    match ineqOf v with
    | none => ops.find? (fun ie => ie.toList.isPrefixOf rest) = none
    | some (op, vv) => ops.find? (fun ie => ie.toList.isPrefixOf rest) = some (opStr op) ∧
        vv = String.ofList ('?' :: rest.drop (opStr op).toList.length) := by
  have hq : '?'.utf8Size = 1 := by decide
  match rest, hv with
  | [], hv => simp [hv, byteLen, hq] at h3
  | [c], hv =>
    have hc : 2 ≤ c.utf8Size := by simp [hv, byteLen, hq] at h3; omega
    have h1 : c ≠ '<' := by rintro rfl; revert hc; decide
    have h2 : c ≠ '>' := by rintro rfl; revert hc; decide
    simp [ineqOf, hv, ops, List.isPrefixOf, Ne.symm h1, Ne.symm h2]
  | c :: d :: r, hv =>
    -- by the first character after the '?', and whether '=' follows it
    by_cases h1 : c = '<'
    · by_cases hd : d = '=' <;> simp [ineqOf, hv, ops, opStr, List.isPrefixOf, h1, hd, eq_comm (a := '=')]
    by_cases h2 : c = '>'
    · by_cases hd : d = '=' <;> simp [ineqOf, hv, ops, opStr, List.isPrefixOf, h2, hd, eq_comm (a := '=')]
    by_cases h3 : c = '!'
    · by_cases hd : d = '=' <;> simp [ineqOf, hv, ops, opStr, List.isPrefixOf, h3, hd, eq_comm (a := '=')]
    simp [ineqOf, hv, ops, List.isPrefixOf, h1, h2, h3, eq_comm (b := c)]

/-- a name of one or two bytes is no inequality -/
theorem ineqOf_short {v : String} {rest : List Char} (hv : v.toList = '?' :: rest) (h2 : byteLen v.toList ≤ 2) :
    ineqOf v = none := by
  match rest, hv with
  | [], hv | [_], hv => simp [ineqOf, hv]
  | c :: d :: r, hv =>
    have := Char.utf8Size_pos c
    have := Char.utf8Size_pos d
    simp [hv, byteLen, show '?'.utf8Size = 1 by decide] at h2
    omega

/-- statements 10–12: the operator scan -/
theorem seg2_run (ys : List GS) (n : Nat) (g : Env) (H : Heap) (am ab : Nat) (f : GV) (v : String) (a b : Rat)
    (hv : isVar v = true) :
    retOf (execB (n + 54) matchProg g (envA am ab f v a b) H (seg2 ++ ys)) =
      (match ineqOf v with
       | none => .ok ([.bool false, .nil, .nil], H)
       | some (op, vv) => retOf (execB (n + 51) matchProg g (envB am ab f v a b op vv) H ys)) := by
  obtain ⟨rest, hrest⟩ := isVar_cons hv
  have hq : '?'.utf8Size = 1 := by decide
  have h2s : seg2 = _ := rfl
  conv at h2s => rhs; simp only [seg2, matchProg_Minequal, List.take, List.drop]
  rw [h2s]
  by_cases h2 : byteLen v.toList ≤ 2
  · rw [ineqOf_short hrest h2]
    obtain h | h : byteLen v.toList = 1 ∨ byteLen v.toList = 2 := by
      have : byteLen v.toList = 1 + byteLen rest := by simp [hrest, byteLen, hq]
      omega
    all_goals simp [h]
  · have hs := scan_ineqOf hrest (by omega)
    obtain ⟨items, hitems, hsnd, hlen⟩ := rangeItems_slice H (ops.map GV.str)
    rw [hrest] at h2
    have e1 := int_beq_false (byteLen ('?' :: rest)) 1 (by omega)
    have e2 := int_beq_false (byteLen ('?' :: rest)) 2 (by omega)
    simp only [ops, List.map] at hitems
    simp [e1, e2, sliceV, hrest, dropBytes, hq, hitems]
    erw [scan_loop g _ H rest items ops _ hsnd (by simp [ops] at hlen; omega)]
    cases hio : ineqOf v with
    | none => rw [hio] at hs; simp [hs]
    | some r =>
      obtain ⟨op, vv⟩ := r
      rw [hio] at hs
      have hne : ¬ vv = "" := by rw [hs.2]; intro h; simpa using congrArg String.toList h
      simp [hs.1, ← hs.2, envB, hne]


/-- statements 13–14: the relation -/
theorem seg3a_run (ys : List GS) (n : Nat) (g : Env) (H : Heap) (am ab : Nat) (f : GV) (v : String) (a b : Rat)
    (op : IneqOp) (vv : String) :
    retOf (execB (n + 33) matchProg g (envB am ab f v a b op vv) H (seg3a ++ ys)) =
      retOf (execB (n + 31) matchProg g (("satisfied", .bool (op.rel a b)) :: envB am ab f v a b op vv) H ys) := by
  have h3 : seg3a = _ := rfl
  conv at h3 => rhs; simp only [seg3a, matchProg_Minequal, List.take, List.drop]
  -- by the operator up to its comparison, then by what that gives
  cases op <;> simp [h3, envB, opStr] <;> cases hr : IneqOp.rel _ a b <;> simp [IneqOp.rel] at hr <;> simp [hr]

/-- statements 15–19: the counterpart binding -/
theorem seg3b_run (n : Nat) (g : Env) (H : Heap) (am ab : Nat) (bo : MapObj) (f : GV) (v : String) (a b : Rat)
    (op : IneqOp) (vv : String) (sat : Bool) (hb : heapGet H ab = some bo) :
    retOf (execB (n + 40) matchProg g (("satisfied", .bool sat) :: envB am ab f v a b op vv) H seg3b) =
      (if !sat then .ok ([.bool true, .nil, .nil], H)
       else match mlookup (.str vv) bo.kvs with
         | some c' =>
           match asNumG c' with
           | none => .ok ([.bool false, .nil, .nil], H)
           | some c => if c = a then .ok ([.bool true, .slice [.ref ab], .nil], H)
                       else .ok ([.bool true, .nil, .nil], H)
         | none => .ok ([.bool true, .slice [.ref ab], .nil],
                        heapSet H ab { bo with kvs := minsert (.str vv) (.f64 a) bo.kvs })) := by
  have h3 : seg3b = _ := rfl
  conv at h3 => rhs; simp only [seg3b, matchProg_Minequal, List.drop]
  cases sat with
  | false => simp [h3, envB]
  | true =>
    -- up to the lookup of the counterpart, then to its number, then to the comparison
    simp [h3, envB, hb]
    cases hl : mlookup (.str vv) bo.kvs with
    | none => simp [hb]
    | some c' =>
      simp
      cases hc : asNumG c' with
      | none => simp [fudge_nonnum H hc]
      | some c =>
        simp [fudge_num hc]
        by_cases hca : c = a <;> simp [hca]


/-- the three answers of `Matcher.inequal` -/
inductive IneqOut where
  | notUsing                              -- (false, nil, nil): fall through to ordinary variable handling
  | fails                                 -- (true, nil, nil): an inequality, and it does not hold
  | holds (kvs' : List (GV × GV))         -- (true, [bs], nil), the bindings now `kvs'`

/-- `Matcher.inequal` over the interpreter's values — the model's `inequal`, line for line, with
    `ineqOf` and `IneqOp.rel` of the model itself -/
def inequalG (f : GV) (kvs : List (GV × GV)) (v : String) : IneqOut :=
  match mlookup (.str v) kvs with
  | none => .notUsing
  | some x =>
    match asNumG x with
    | none => .notUsing
    | some b =>
      match asNumG f with
      | none => .notUsing
      | some a =>
        match ineqOf v with
        | none => .notUsing
        | some (op, vv) =>
          if !(op.rel a b) then .fails
          else
            match mlookup (.str vv) kvs with
            | some c' =>
              match asNumG c' with
              | none => .notUsing
              | some c => if c = a then .holds kvs else .fails
            | none => .holds (minsert (.str vv) (.f64 a) kvs)

def ineqResult (H : Heap) (ab : Nat) (bo : MapObj) : IneqOut → R (List GV × Heap)
  | .notUsing => .ok ([.bool false, .nil, .nil], H)
  | .fails => .ok ([.bool true, .nil, .nil], H)
  | .holds kvs' => .ok ([.bool true, .slice [.ref ab], .nil], heapSet H ab { bo with kvs := kvs' })

/-- **The translated `Matcher.inequal`** (as regenerated from match/match.go) computes `inequalG`, for
    every message value, bindings map, variable name and heap. -/
theorem tr_inequal (j : Nat) (g : Env) (H : Heap) (am ab : Nat) (mo bo : MapObj) (f : GV) (v : String)
    (hm : heapGet H am = some mo) (hI : mlookup (.str "Inequalities") mo.kvs = some (.bool true))
    (hb : heapGet H ab = some bo) (hv : isVar v = true) :
    callFn (j + 76) matchProg g ".inequal" (.ref am) [f, .ref ab, .str v] H =
      ineqResult H ab bo (inequalG f bo.kvs v) := by
  refine callFn_run matchProg_names matchProg_Minequal
    (env := [("m", .ref am), ("fact", f), ("bs", .ref ab), ("v", .str v)]) (hb := body_split) ?_
  rw [seg1_run _ _ g H am ab mo bo f v hm hI hb hv]
  unfold inequalG
  cases mlookup (.str v) bo.kvs with
  | none => rfl
  | some x =>
    simp only [Option.bind]
    cases asNumG x with
    | none => rfl
    | some b =>
      cases asNumG f with
      | none => rfl
      | some a =>
        simp only []
        rw [seg2_run _ _ g H am ab f v a b hv]
        cases ineqOf v with
        | none => rfl
        | some r =>
          obtain ⟨op, vv⟩ := r
          simp only []
          rw [seg3a_run, seg3b_run _ g H am ab bo f v a b op vv _ hb]
          cases op.rel a b with
          | false => rfl
          | true =>
            cases mlookup (.str vv) bo.kvs with
            | none => rfl
            | some c' =>
              simp only [Bool.not_true, Bool.false_eq_true, if_false]
              cases asNumG c' with
              | none => rfl
              | some c => by_cases hca : c = a <;> simp [ineqResult, hca, heapSet_self H ab bo hb]

/-- Non-vacuity, and the documented example: bindings `{"?<n": 10}`, variable `?<n`, message value 3 —
    the translated `inequal` reports an inequality that holds and stores `?n := 3` in the bindings map. -/
example (j : Nat) (g : Env) :
    callFn (j + 76) matchProg g ".inequal" (.ref 0) [.f64 3, .ref 1, .str "?<n"]
      [{ ty := "Matcher", kvs := [(.str "Inequalities", .bool true)] }, { ty := "Bindings", kvs := [(.str "?<n", .f64 10)] }] =
    .ok ([.bool true, .slice [.ref 1], .nil],
      [{ ty := "Matcher", kvs := [(.str "Inequalities", .bool true)] },
       { ty := "Bindings", kvs := [(.str "?<n", .f64 10), (.str "?n", .f64 3)] }]) := by
  have h := tr_inequal j g
    [{ ty := "Matcher", kvs := [(.str "Inequalities", .bool true)] }, { ty := "Bindings", kvs := [(.str "?<n", .f64 10)] }]
    0 1 { ty := "Matcher", kvs := [(.str "Inequalities", .bool true)] } { ty := "Bindings", kvs := [(.str "?<n", .f64 10)] }
    (.f64 3) "?<n" rfl rfl rfl (by decide)
  rw [h]
  have h3 : (3 : Rat) < 10 := by decide
  simp [ineqResult, inequalG, mlookup, keyEq, asNumG, ineqOf, IneqOp.rel, minsert, heapSet, h3]

end Sheens.TrIneq
