import Sheens.Expect
import Sheens.Proofs.ExpectExact

/-!
# Property C19 — the expectation tool's verdict is sound

Over the model `Expect.verdict` of `Session.Run` (repaired tree), for all sessions (any number of
steps, expected and inverted outputs, guards as arbitrary functions) and all event streams.
-/

namespace Sheens.C19

open Expect

/-- a chunk of the stream serves a step: every expected output is accepted by some line of the
    chunk, and no forbidden (inverted) output accepts any line of the chunk -/
def Serves (st : IOStep) (chunk : List Event) : Prop :=
  (∀ o ∈ st.outputs, o.inverted = false → ∃ l ∈ linesOf chunk, accepts o l = .ok true) ∧
  (∀ o ∈ st.outputs, o.inverted = true → ∀ l ∈ linesOf chunk, accepts o l ≠ .ok true)

/-- consecutive chunks of the stream, one per step, each serving its step -/
inductive Witnessed : List IOStep → List Event → Prop
  | nil  : Witnessed [] evs
  | cons : Serves st chunk → Witnessed more rest → Witnessed (st :: more) (chunk ++ rest)

/-- One step that completes has consumed a chunk that serves it. -/
theorem runStep_sound (st : IOStep) (evs rest : List Event)
    (h : runStep st.outputs (st.outputs.map (fun _ => false)) (needOf st.outputs) evs = .ok rest) :
    ∃ chunk, evs = chunk ++ rest ∧ Serves st chunk := by
  obtain ⟨chunk, he, hc⟩ := (runStep_ok_iff st.outputs evs rest).mp h
  obtain ⟨_, _, _, hC⟩ := hc.completes
  exact ⟨chunk, he, hC, hc.noForbidden⟩

/-- The session passes only if, step by step, every expected output was matched (and accepted by its
    guard) by some emitted message of that step and no forbidden pattern was matched.  In particular
    each expected output has a witnessing line of its own: a message appearing twice does not stand
    in for a different expected message (it would have to be accepted by that one too). -/
theorem verdict_sound (steps : List IOStep) (evs : List Event) (h : verdict steps evs = .pass) :
    Witnessed steps evs := by
  induction steps generalizing evs with
  | nil => exact .nil
  | cons st more ih =>
    obtain ⟨chunk, rest, rfl, hc, hv⟩ := (verdict_cons_pass_iff st more evs).mp h
    obtain ⟨_, _, _, hC⟩ := hc.completes
    exact .cons ⟨hC, hc.noForbidden⟩ (ih rest hv)

/-- If an expected message never arrives before the timeout (or the stream ends), the session fails. -/
theorem missing_expected_fails (st : IOStep) (more : List IOStep) (evs : List Event) (o : Output)
    (ho : o ∈ st.outputs) (hi : o.inverted = false)
    (hnone : ∀ l ∈ linesOf evs, accepts o l ≠ .ok true) :
    verdict (st :: more) evs ≠ .pass := by
  intro hp
  obtain ⟨chunk, rest, rfl, hc, -⟩ := (verdict_cons_pass_iff st more evs).mp hp
  obtain ⟨_, _, _, hC⟩ := hc.completes
  obtain ⟨l, hl, ha⟩ := hC o ho hi
  exact hnone l (by rw [linesOf_append]; exact List.mem_append_left _ hl) ha

end Sheens.C19
