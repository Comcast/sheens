import Sheens.ES
import Sheens.Proofs.EngineLemmas

/-!
# Property C04 — a step follows the documented transition rule

"Decision logic stated outright" over the model `step`/`consider`/`tryAll`/`tryBranch` of
`core/step.go`, for all specs, states, pending messages and all action/guard *functions*.
-/

namespace Sheens.C04

/-- Branches are tried in their listed order: the result is decided by the first branch that fires. -/
theorem tryAll_first (bs : Option Bs) (against : V) (brs : List Branch) (t : State) :
    tryAll bs against brs = .ok (some t) ↔
      ∃ pre br post, brs = pre ++ br :: post ∧
        (∀ b ∈ pre, tryBranch b bs against = .ok none) ∧ tryBranch br bs against = .ok (some t) := by
  rw [tryAll_eq_firstHit]
  exact firstHit_eq_iff brs _ nofun

/-- No branch is taken iff every branch declines. -/
theorem tryAll_none (bs : Option Bs) (against : V) (brs : List Branch) :
    tryAll bs against brs = .ok none ↔ ∀ b ∈ brs, tryBranch b bs against = .ok none := by
  rw [tryAll_eq_firstHit]
  exact firstHit_none brs

/-- An error comes from the first branch that does not simply decline. -/
theorem tryAll_error (bs : Option Bs) (against : V) (brs : List Branch) (e : StepErr) :
    tryAll bs against brs = .error e ↔
      ∃ pre br post, brs = pre ++ br :: post ∧
        (∀ b ∈ pre, tryBranch b bs against = .ok none) ∧ tryBranch br bs against = .error e := by
  rw [tryAll_eq_firstHit]
  exact firstHit_eq_iff brs _ nofun

/-- A branch without a guard fires iff its pattern (if any) yields exactly one candidate. -/
theorem tryBranch_unguarded (b : Branch) (bs : Option Bs) (against : V) (hg : b.guard = none) :
    tryBranch b bs against =
      (match candidates b bs against with
       | .error e => .error e
       | .ok [] => .ok none
       | .ok [none] => .ok none
       | .ok [some c] => .ok (some { node := targetOf b c, bs := some c })
       | .ok _ => .error .tooManyBindingss) := by
  unfold tryBranch
  generalize candidates b bs against = c
  rcases c with e | (_ | ⟨(_ | c), (_ | ⟨d, l⟩)⟩) <;> simp only [hg]

/-- A guarded branch fires with the bindings returned by the guard for the first candidate the
    guard accepts (candidates from a pattern; all are non-nil). -/
theorem tryBranch_guarded (b : Branch) (bs : Option Bs) (against : V) (g : ActionF) (p : V)
    (cs : List Bs) (hg : b.guard = some g) (hp : b.pattern = some p)
    (hc : matchTop p against (copyB bs) = .ok cs) :
    tryBranch b bs against =
      (match guardLoop g cs with
       | .error e => .error e
       | .ok none => .ok none
       | .ok (some c) => .ok (some { node := targetOf b c, bs := some c })) := by
  have hcand : candidates b bs against = .ok (cs.map some) := by
    unfold candidates; simp only [hp, hc, matchErrOf]; rfl
  -- no candidate of a pattern is nil, so the guard goes through the loop
  have hch : choose b (cs.map some) = guardLoop g cs := by
    unfold choose
    rw [hg]
    rcases cs with _ | ⟨c, _ | ⟨d, l⟩⟩
    · rfl
    · rfl
    · simp only [List.map_cons, List.filterMap_cons, id, List.filterMap_map, Function.id_comp,
        List.filterMap_some]
  rw [tryBranch_eq, hcand]
  exact hch ▸ rfl

/-- The guard loop returns the result for the first candidate whose guard returns bindings; a guard
    error stops it. -/
theorem guardLoop_first (g : ActionF) (cs : List Bs) (b : Bs) :
    guardLoop g cs = .ok (some b) ↔
      ∃ pre c post em, cs = pre ++ c :: post ∧
        (∀ x ∈ pre, (execWrap g (some x)).err = none ∧
            ∀ y em', (execWrap g (some x)).exe ≠ some (some y, em')) ∧
        (execWrap g (some c)).err = none ∧ (execWrap g (some c)).exe = some (some b, em) := by
  rw [guardLoop_eq_firstHit, firstHit_eq_iff _ (.ok (some b)) nofun]
  -- `exists_and_left` moves the `∃ em` of `guardCall_some` to where the statement has it
  simp only [guardCall_none, guardCall_some, exists_and_left]

/-- Message branching consumes the pending message whether or not a branch is taken. -/
theorem step_message_consumes (s : Spec) (st : State) (m : V) (n : Node) (br : Branches)
    (hc : s.compiled = true) (hn : findNode st.node s.nodes = some n)
    (ha : n.action = none) (hs : n.hasSource = false)
    (hb : n.branches = some br) (ht : br.type = "message") :
    ∃ sd, (step s st (some m)).stride = some sd ∧ sd.consumed = some m := by
  rw [step_noaction s st _ n hc hn ha hs, stepRest_eq, hb]
  exact ⟨_, rfl, by simp only [consider_msg_some br st.bs m ht, if_true]⟩

/-- Message branching does nothing when there is no pending message. -/
theorem step_message_idle (s : Spec) (st : State) (n : Node) (br : Branches)
    (hc : s.compiled = true) (hn : findNode st.node s.nodes = some n)
    (ha : n.action = none) (hs : n.hasSource = false)
    (hb : n.branches = some br) (ht : br.type = "message") :
    ∃ sd, (step s st none).stride = some sd ∧ sd.to = none ∧ sd.consumed = none ∧ sd.emitted = [] ∧
      (step s st none).err = none := by
  rw [step_noaction s st _ n hc hn ha hs, stepRest_eq, hb, consider_msg_none br st.bs ht, ha]
  exact ⟨_, rfl, rfl, rfl, rfl, rfl⟩

/-- Bindings branching (and a node without branching) never consumes. -/
theorem step_bindings_never_consumes (s : Spec) (st : State) (pending : Option V) (n : Node)
    (hn : findNode st.node s.nodes = some n)
    (hb : ∀ br, n.branches = some br → br.type ≠ "message") :
    ∀ sd, (step s st pending).stride = some sd → sd.consumed = none := by
  intro sd hsd
  cases step_cases s st with
  | nostride r hr h => rw [h, hr] at hsd; cases hsd
  | errNode n' a e _ _ _ h => rw [h] at hsd; cases hsd; rfl
  | rest n' bs em _ hn' _ h =>
    rw [hn] at hn'; cases hn'
    rw [h, stepRest_eq] at hsd; cases hsd
    simp only [consider_nonmsg n.branches bs pending hb]; rfl

/-- Without an action the branches are considered against the current bindings, and the step's
    target is exactly what `consider` decides. -/
theorem step_no_action (s : Spec) (st : State) (pending : Option V) (n : Node)
    (hc : s.compiled = true) (hn : findNode st.node s.nodes = some n)
    (ha : n.action = none) (hs : n.hasSource = false) :
    ∃ sd, (step s st pending).stride = some sd ∧ sd.emitted = [] ∧
      sd.to = (consider n.branches st.bs pending).1.map stateCopy ∧
      (step s st pending).err = (consider n.branches st.bs pending).2.2 := by
  rw [step_noaction s st _ n hc hn ha hs, stepRest_eq, ha]
  exact ⟨_, rfl, rfl, by simp, rfl⟩

/-- The action runs first and the bindings it returns replace the current ones: the branches are
    considered against the returned bindings `b'`; the step emits what the action emitted. -/
theorem step_action_first (s : Spec) (st : State) (pending : Option V) (n : Node) (a : ActionF)
    (b' : Bs) (em : List V)
    (hc : s.compiled = true) (hn : findNode st.node s.nodes = some n) (ha : n.action = some a)
    (hm : ∀ br, n.branches = some br → br.type ≠ "message")
    (hx : (execWrap a st.bs).exe = some (some b', em)) (he : (execWrap a st.bs).err = none) :
    ∃ sd, (step s st pending).stride = some sd ∧ sd.emitted = em ∧ sd.consumed = none ∧
      (∀ t, (consider n.branches (some b') pending).1 = some t → sd.to = some (stateCopy t)) ∧
      ((consider n.branches (some b') pending).1 = none →
        ∃ eb, sd.to = some { node := "error", bs := some eb } ∧
          lookup "error" eb = some (.str "Action node followed no branch") ∧
          lookup "lastNode" eb = some (.str st.node)) := by
  rw [step_action_ok s st pending n a hc hn ha hm he, stepRest_eq, hx, ha]
  refine ⟨_, rfl, rfl, by simp only [consider_nonmsg _ _ _ hm]; rfl, ?_, ?_⟩
  · intro t h
    simp [exeOut, h]
  · intro h
    simp only [exeOut, h]
    exact ⟨_, rfl, (lookup_diagnostics _ _ _ _).1, (lookup_diagnostics _ _ _ _).2.1⟩

/-- An action failure with error branches: the branches are considered against the *given*
    bindings extended by `actionError` and `error`. -/
theorem step_error_branches (s : Spec) (st : State) (pending : Option V) (n : Node) (a : ActionF)
    (e : String)
    (hc : s.compiled = true) (hn : findNode st.node s.nodes = some n) (ha : n.action = some a)
    (hm : ∀ br, n.branches = some br → br.type ≠ "message")
    (he : (execWrap a st.bs).err = some e) (hb : s.actionErrorBranches = true) :
    let eb := insertB "error" (.str e) (insertB "actionError" (.str e) (copyB st.bs))
    ∃ sd, (step s st pending).stride = some sd ∧
      (∀ t, (consider n.branches (some eb) pending).1 = some t → sd.to = some (stateCopy t)) := by
  intro eb
  rw [step_action_err_branches s st pending n a e hc hn ha hm he hb, stepRest_eq]
  refine ⟨_, rfl, ?_⟩
  intro t h
  have h' : (consider n.branches (some (actErrBs e st.bs)) pending).1 = some t := h
  simp [h']

/-- An action failure with a designated error node: the step goes there with the error bound. -/
theorem step_error_node (s : Spec) (st : State) (pending : Option V) (n : Node) (a : ActionF)
    (e : String)
    (hc : s.compiled = true) (hn : findNode st.node s.nodes = some n) (ha : n.action = some a)
    (hm : ∀ br, n.branches = some br → br.type ≠ "message")
    (he : (execWrap a st.bs).err = some e) (hb : s.actionErrorBranches = false)
    (ht : s.actionErrorNode ≠ "") :
    ∃ sd, (step s st pending).stride = some sd ∧ (step s st pending).err = none ∧ sd.consumed = none ∧
      sd.to = some { node := s.actionErrorNode,
                     bs := some (insertB "error" (.str e) (insertB "actionError" (.str e) (copyB st.bs))) } := by
  rw [step_action_err_node s st pending n a e hc hn ha hm he hb ht]
  exact ⟨_, rfl, rfl, rfl, rfl⟩

/-- An action failure with no error settings: the step returns the error (Walk then goes to the
    error node, see C07). -/
theorem step_error_returned (s : Spec) (st : State) (pending : Option V) (n : Node) (a : ActionF)
    (e : String)
    (hc : s.compiled = true) (hn : findNode st.node s.nodes = some n) (ha : n.action = some a)
    (hm : ∀ br, n.branches = some br → br.type ≠ "message")
    (he : (execWrap a st.bs).err = some e) (hb : s.actionErrorBranches = false)
    (ht : s.actionErrorNode = "") :
    (step s st pending).stride = none ∧ (step s st pending).err = some (.action e) := by
  rw [step_action_err_ret s st pending n a e hc hn ha hm he hb ht]
  exact ⟨rfl, rfl⟩

end Sheens.C04
