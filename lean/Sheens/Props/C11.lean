import Sheens.Watcher
import Sheens.Engine
import Sheens.Proofs.WatcherInv
import Sheens.Proofs.EngineLemmas

/-!
# Property C11 — action timeouts are enforced  (partial: wall-clock promptness and goja's interrupt
latency are trusted; what is proved is the protocol, over all interleavings)
-/

namespace Sheens.C11

open Watcher

def Reachable (terminates expired : Bool) (s : St) : Prop := ∃ tr, run terminates (St.init expired) tr = some s

theorem Reachable.inv {t e : Bool} {s : St} (h : Reachable t e s) : Inv t s :=
  h.elim fun _ => run_keeps Inv.step (Inv.init t e)

/-- `cancel()` is called before `Exec` returns. -/
theorem cancel_before_return (t e : Bool) (s : St) (h : Reachable t e s) :
    (∃ i, s.main = .done i ∨ s.main = .cancelled i) → s.cancelled = true := by
  rintro ⟨i, hm⟩
  exact h.inv.canc.mpr ⟨i, hm.symm⟩

/-- No goroutine outlives the call: once `Exec` has returned, the watcher is either gone or has only
    enabled steps left (it is never blocked forever), and at quiescence it is gone. -/
theorem watcher_never_blocked (t e : Bool) (s : St) (i : Bool) (h : Reachable t e s) (hd : s.main = .done i) :
    (s.watch = .waiting → enabled t s .wake = true) ∧
    (s.watch = .woke → enabled t s .interrupt = true) ∧
    (quiescent t s = true → s.watch = .gone) := by
  have hc : s.cancelled = true := h.inv.canc.mpr ⟨i, .inr hd⟩
  have hw : s.watch = .waiting → enabled t s .wake = true := fun hw => by
    simp [enabled_wake, hw, hc]
  have hi : s.watch = .woke → enabled t s .interrupt = true := fun hw => by
    simp [enabled_interrupt, hw]
  refine ⟨hw, hi, fun hq => ?_⟩
  obtain ⟨qw, qi, -⟩ := quiescent_iff.mp hq
  cases hwatch : s.watch with
  | waiting => rw [hw hwatch] at qw; cases qw
  | woke => rw [hi hwatch] at qi; cases qi
  | gone => rfl

/-- A script that does not terminate by itself can only leave `running` through an interrupt, and
    the result is then the interrupted one. -/
theorem nonterminating_ends_interrupted (e : Bool) (s : St) (i : Bool) (h : Reachable false e s)
    (hd : s.main = .returned i ∨ s.main = .cancelled i ∨ s.main = .done i) : i = true := by
  cases i
  · exact absurd (h.inv.term (by rcases hd with hm | hm | hm <;> rw [hm] <;> rfl)) nofun
  · rfl

/-- Once the caller's context is done while the script runs, the interrupt is on its way: in every
    reachable state with the program still running, some internal step is enabled that leads towards
    the stop (the watcher wakes, delivers, the program stops) — the execution cannot hang. -/
theorem running_after_done_progresses (t e : Bool) (s : St) (h : Reachable t e s)
    (hr : s.main = .running) (hp : s.parentDone = true) :
    enabled t s .wake = true ∨ enabled t s .interrupt = true ∨ enabled t s .stop = true := by
  cases hw : s.watch with
  | waiting => exact .inl (by simp [enabled_wake, hw, hp])
  | woke => exact .inr (.inl (by simp [enabled_interrupt, hw]))
  | gone => exact .inr (.inr (by simp [enabled_stop, hr, h.inv.pend.mpr hw]))

/-- Nothing blocks before the return either: a reachable state is quiescent only when `Exec` has
    returned and the watcher is gone, or when a script that does not terminate by itself is still
    running with the caller's context alive (it is then the script's own time). -/
theorem quiescent_means_done_or_waiting_for_script (t e : Bool) (s : St) (h : Reachable t e s)
    (hq : quiescent t s = true) :
    (∃ i, s.main = .done i ∧ s.watch = .gone) ∨ (s.main = .running ∧ s.parentDone = false ∧ t = false) := by
  obtain ⟨qw, qi, qf, qs, qc, qr⟩ := quiescent_iff.mp hq
  cases hm : s.main with
  | running =>
    rw [enabled_finish, hm] at qf
    refine .inr ⟨rfl, ?_, by simpa using qf⟩
    cases hp : s.parentDone with
    | false => rfl
    | true =>
      have := running_after_done_progresses t e s h hm hp
      simp [qw, qi, qs] at this
  | returned i => rw [enabled_cancel hm] at qc; cases qc
  | cancelled i => rw [enabled_ret hm] at qr; cases qr
  | done i => exact .inl ⟨i, rfl, (watcher_never_blocked t e s i h hm).2.2 hq⟩

/-- A script that finished by itself is not reported as interrupted even if the watcher fires later. -/
theorem finished_is_not_interrupted (t e : Bool) (s s' : St) (h : Reachable t e s)
    (hf : step t s .finish = some s') (tr : List Act) (s'' : St) (hr : run t s' tr = some s'') (i : Bool)
    (hd : s''.main = .done i) : i = false := by
  have _ := h   -- reachability of `s` is not needed
  have hc : s'.main.result = some false := by
    obtain ⟨-, hf⟩ := Option.ite_none_right_eq_some.mp hf
    cases hf; rfl
  have := run_keeps result_step hc hr
  rw [hd] at this
  exact Option.some.inj this

/-- The timeout is an action error like any other: the step routes it through the error settings
    (C04's `step_error_*` and C07's `action_error_*` theorems apply verbatim to an action whose
    execution returns the error `RuntimeError: timeout`). -/
theorem timeout_is_an_action_error (s : Spec) (st : State) (pending : Option V) (n : Node) (a : ActionF)
    (hc : s.compiled = true) (hn : findNode st.node s.nodes = some n) (ha : n.action = some a)
    (hm : ∀ br, n.branches = some br → br.type ≠ "message")
    (he : (execWrap a st.bs).err = some "RuntimeError: timeout") (hb : s.actionErrorBranches = false)
    (ht : s.actionErrorNode ≠ "") :
    ∃ sd, (step s st pending).stride = some sd ∧
      sd.to = some { node := s.actionErrorNode,
                     bs := some (insertB "error" (.str "RuntimeError: timeout")
                              (insertB "actionError" (.str "RuntimeError: timeout") (copyB st.bs))) } := by
  rw [step_action_err_node s st pending n a _ hc hn ha hm he hb ht]
  exact ⟨_, rfl, rfl⟩

end Sheens.C11
