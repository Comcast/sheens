import Sheens.Proofs.GoExec
import Sheens.Gen.GoAst
import Sheens.Match
import Sheens.Engine
open Go Gen.GoAst

/-!
# Tie C, proved part: translated leaf functions of `core`

`isPermanent` (core/actions.go), `IsBranchTargetVariable` and `Branch.target` (core/step.go) as
regenerated by `go/go2lean`, against the model's `isPermanent`, `isTargetVar` and `targetG`, which is
the model's `targetOf` written over the interpreter's values.
-/

namespace Sheens.TrCore

theorem coreActionsProg_names : (coreActionsProg.fns.map (·.name)).Nodup := by decide +kernel
theorem coreStepProg_names : (coreStepProg.fns.map (·.name)).Nodup := by decide +kernel

theorem suffix_bang (s : String) : (['!'].isPrefixOf s.toList.reverse) = isPermanent s := by
  unfold isPermanent
  split <;> rename_i h
  · simp [h]
  · cases hs : s.toList.reverse with
    | nil => rfl
    | cons c cs => simp [List.isPrefixOf]; rintro rfl; exact h _ hs

/-- the translated `core.isPermanent` computes the model's `isPermanent` -/
theorem tr_isPermanent (n : Nat) (g : Env) (s : String) (h : Heap) :
    callFn (n + 10) coreActionsProg g "isPermanent" .nil [.str s] h = .ok ([.bool (isPermanent s)], h) := by
  refine callFn_run coreActionsProg_names coreActionsProg_isPermanent ?_
  simp [coreActionsProg_isPermanent, suffix_bang]

theorem byteLen_eq_zero (cs : List Char) : byteLen cs = 0 ↔ cs = [] := by
  cases cs with
  | nil => simp [byteLen]
  | cons c cs =>
    have := Char.utf8Size_pos c
    simp [byteLen]; omega

theorem leadByte_at (c : Char) : (leadByte c = 64) ↔ c = '@' := by
  constructor
  · intro h
    unfold leadByte at h
    split at h
    · apply Char.ext; apply UInt32.toNat_inj.mp; show c.val.toNat = 64; exact h
    · split at h
      · omega
      · split at h <;> omega
  · intro h; subst h; decide

theorem leadByte_at_int (c : Char) : ((leadByte c : Int) = 64) ↔ c = '@' := by
  rw [← leadByte_at]; omega

@[simp ↓] theorem builtin_IsBranchTargetVariable (vs : List GV) (h : Heap) :
    builtin "IsBranchTargetVariable" vs h = none := id rfl

/-- the translated `core.IsBranchTargetVariable` computes the model's `isTargetVar` -/
theorem tr_IsBranchTargetVariable (n : Nat) (g : Env) (s : String) (h : Heap) :
    callFn (n + 12) coreStepProg g "IsBranchTargetVariable" .nil [.str s] h = .ok ([.bool (isTargetVar s)], h) := by
  refine callFn_run coreStepProg_names coreStepProg_IsBranchTargetVariable ?_
  unfold isTargetVar
  cases hs : s.toList with
  | nil => simp [coreStepProg_IsBranchTargetVariable, hs, byteLen]
  | cons c cs =>
    have hne : ¬ (byteLen (c :: cs) = 0) := by rw [byteLen_eq_zero]; exact List.cons_ne_nil _ _
    by_cases hc : c = '@'
    · subst hc
      simp [coreStepProg_IsBranchTargetVariable, hs, hne, leadByte_at_int]
    · simp [coreStepProg_IsBranchTargetVariable, hs, hne, leadByte_at_int, hc]

attribute [simp] tr_IsBranchTargetVariable

/-- `Branch.target` over the interpreter's values: `t` is the branch's `Target`, `kvs` the entries of
    the bindings map -/
def targetG (t : String) (kvs : List (GV × GV)) : String :=
  if !kvs.isEmpty && isTargetVar t then
    match mlookup (.str (String.ofList (t.toList.tail))) kvs with
    | some (.str s) => s
    | _ => t
  else t

theorem tr_target (n : Nat) (g : Env) (h : Heap) (ab am : Nat) (bo mo : MapObj) (t : String)
    (hb : heapGet h ab = some bo) (ht : mlookup (.str "Target") bo.kvs = some (.str t))
    (hm : heapGet h am = some mo) :
    callFn (n + 40) coreStepProg g ".target" (.ref ab) [.ref am] h = .ok ([.str (targetG t mo.kvs)], h) := by
  refine callFn_run coreStepProg_names coreStepProg_Mtarget ?_
  unfold targetG
  -- up to `len(bs)`, then to whether the target is a variable, then to what it is bound to
  simp [coreStepProg_Mtarget, hm]
  cases hk : mo.kvs with
  | nil => simp [hb, ht]
  | cons e es =>
    simp [hb, ht]
    cases hv : isTargetVar t
    · simp [hb, ht]
    · have hdrop : dropBytes t.toList 1 = some (t.toList.tail) := by
        unfold isTargetVar at hv
        split at hv
        · next cs htl => cases cs <;> simp [htl, dropBytes, show '@'.utf8Size = 1 by decide]
        · cases hv
      simp [hb, ht, hm, hk, sliceV, hdrop]
      cases hl : mlookup (.str (String.ofList (t.toList.tail))) (e :: es) with
      | none => simp [hb, ht]
      | some x =>
        simp
        by_cases hx : typeOf h x = GT.str
        · obtain ⟨s, rfl⟩ := typeOf_inv hx
          simp
        · simp [hx, hb, ht]
          cases x <;> simp at hx ⊢

end Sheens.TrCore
