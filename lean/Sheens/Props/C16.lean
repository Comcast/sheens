import Sheens.MCrew
import Sheens.Proofs.MCrewLemmas

/-!
# Property C16 — mcrew: memory advances only with a successful write

Over the model `MCrew.step` / `MCrew.run` of the (repaired) service, for all operation sequences —
the store's failures are operations of the sequence (`storeDown` / `storeUp`), so "every position
at which the store starts or stops failing" is part of the quantifier — all specs (`specs` is any
function) and all limits.  Each operation is one atomic region (the crew lock is held from the
check to the in-memory update), which is why the sequential model is the model of concurrent
clients too; that the lock really spans those regions is re-checked from the source on every run
(`FactsOK.mcrew_*`), and `sync.RWMutex` / bbolt are trusted.
-/

namespace Sheens.C16

open MCrew

theorem step_preserves (specs : String → Option Spec) (limit : Option Int) (s : Svc) (op : MCrew.Op)
    (h : s.mem = s.store) : (step specs limit s op).1.mem = (step specs limit s op).1.store := by
  rcases op_cases specs limit s op with ⟨r, _, e⟩ | ⟨b, _, e⟩ | ⟨ch, _, e⟩ <;> rw [e]
  · exact h
  · exact h
  · exact congrArg (applyW · ch) h

/-- generalisation of `mem_eq_store` over the start state -/
theorem run_preserves (specs : String → Option Spec) (limit : Option Int) (ops : List MCrew.Op)
    (s : Svc) (h : s.mem = s.store) : (run specs limit s ops).mem = (run specs limit s ops).store :=
  List.foldlRecOn (motive := fun s => s.mem = s.store) ops _ h
    fun s hs op _ => step_preserves specs limit s op hs

/-- After any sequence of operations, with storage failures at arbitrary points, the in-memory crew
    equals the stored records. -/
theorem mem_eq_store (specs : String → Option Spec) (limit : Option Int) (ops : List MCrew.Op) :
    (run specs limit init ops).mem = (run specs limit init ops).store :=
  run_preserves specs limit ops init rfl

/-- An operation that does not succeed (failed write, existing id, unknown spec) leaves the service
    exactly as it was. -/
theorem failed_op_is_noop (specs : String → Option Spec) (limit : Option Int) (s : Svc) (op : MCrew.Op)
    (h : (step specs limit s op).2 ≠ MCrew.Res.ok) : (step specs limit s op).1 = s := by
  rcases op_cases specs limit s op with ⟨r, _, e⟩ | ⟨b, _, e⟩ | ⟨ch, _, e⟩ <;> rw [e] at h ⊢
  · exact absurd rfl h
  · exact absurd rfl h

/-- one step with the store down: nothing moves and the store stays down -/
theorem step_frozen (specs : String → Option Spec) (limit : Option Int) (s : Svc) (op : MCrew.Op)
    (hd : s.storeUp = false) (hno : op ≠ MCrew.Op.storeUp) :
    (step specs limit s op).1.mem = s.mem ∧ (step specs limit s op).1.store = s.store ∧
    (step specs limit s op).1.storeUp = false := by
  rcases op_cases specs limit s op with ⟨r, _, e⟩ | ⟨b, hb, e⟩ | ⟨ch, hch, e⟩ <;> rw [e]
  · exact ⟨rfl, rfl, hd⟩
  · exact ⟨rfl, rfl, Bool.eq_false_iff.mpr fun h => hno (hb.mp h)⟩
  · obtain rfl : ch = [] := hch.resolve_right (by simp [hd])
    exact ⟨rfl, rfl, hd⟩

/-- While the store is failing, memory does not move (whatever the operations, until `storeUp`). -/
theorem memory_frozen_while_store_down (specs : String → Option Spec) (limit : Option Int) (s : Svc)
    (ops : List MCrew.Op) (hd : s.storeUp = false) (hno : ∀ op ∈ ops, op ≠ MCrew.Op.storeUp) :
    (run specs limit s ops).mem = s.mem ∧ (run specs limit s ops).store = s.store := by
  have h := List.foldlRecOn
    (motive := fun s' : Svc => s'.mem = s.mem ∧ s'.store = s.store ∧ s'.storeUp = false) ops
    (fun s op => (step specs limit s op).1) ⟨rfl, rfl, hd⟩ fun s' ⟨h1, h2, h3⟩ op hop => by
      obtain ⟨a, b, c⟩ := step_frozen specs limit s' op h3 (hno op hop)
      exact ⟨a.trans h1, b.trans h2, c⟩
  exact ⟨h.1, h.2.1⟩

/-- A successful `add` makes the machine known to memory and store alike; a successful `rem` removes
    it from both. -/
theorem add_ok (specs : String → Option Spec) (limit : Option Int) (s : Svc) (spec id node : String)
    (bs : Option Bs) (h : (step specs limit s (.add spec id node bs)).2 = MCrew.Res.ok) :
    let s' := (step specs limit s (.add spec id node bs)).1
    (Sio.find id s'.mem).isSome ∧ (Sio.find id s'.store).isSome := by
  dsimp only
  rw [step_add] at h ⊢
  by_cases h1 : (Sio.find id s.mem).isSome = true
  · rw [if_pos h1] at h; cases h
  · rw [if_neg h1] at h ⊢
    cases hu : s.storeUp <;> rw [hu] at h <;> cases h
    exact ⟨congrArg Option.isSome Sio.find_put_self, congrArg Option.isSome Sio.find_put_self⟩

theorem rem_ok (specs : String → Option Spec) (limit : Option Int) (s : Svc) (id : String)
    (h : (step specs limit s (.rem id)).2 = MCrew.Res.ok) :
    let s' := (step specs limit s (.rem id)).1
    Sio.find id s'.mem = none ∧ Sio.find id s'.store = none := by
  dsimp only
  rw [step_rem] at h ⊢
  cases hu : s.storeUp <;> rw [hu] at h <;> cases h
  exact ⟨Sio.find_del_self, Sio.find_del_self⟩

end Sheens.C16
