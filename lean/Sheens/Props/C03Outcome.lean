import Sheens.Props.C03Linear
import Sheens.Proofs.CompleteNoErr

/-!
# Property C03 — on valid linear plain patterns the whole outcome is order independent

`order_independent_linear` speaks about the returned assignments.  The other half of "same
success-or-error outcome" is that no order of the keys produces an error: a pattern whose arrays
hold at most one variable each and whose maps do not mix a property variable with other keys
(`Complete.patOK` — exactly the patterns `getVariable` and the property-variable check accept)
never errs, and `patOK` does not depend on the order of the keys.  (Known finding KF-C03-2 is about
patterns that are *not* `patOK`.)
-/

namespace Sheens.C03

open Sheens.C02 Sheens.Complete Sheens.KeyPermLemmas

/-- a valid plain pattern never makes the matcher err, whatever the (good) message -/
theorem valid_pattern_never_errs (n : Nat) (p f : V) (e : MatchErr)
    (hp : p.plainPat = true) (hok : patOK p = true) (hf : f.good = true) (hv : PlainVars p) :
    matchF n p f [] ≠ .err e := by
  have _ := hv  -- not needed: `matchF_noerr` holds for every pattern `patOK` accepts
  exact matchF_noerr hp hok hf (fun _ _ h => nomatch h)

/-- validity does not depend on the order of the keys -/
theorem patOK_keyperm {p p' : V} (hk : KeyPerm p p') (hok : patOK p = true) : patOK p' = true :=
  (hk.inv [] []).ok hok

/-- hence: for every re-ordering of the keys, neither order errs and both return the same
    assignments — the same outcome -/
theorem order_independent_outcome (p p' f : V) (σ : Bs)
    (hk : KeyPerm p p')
    (hp : p.plainPat = true) (hok : patOK p = true) (hf : f.good = true) (hs : setLike f = true)
    (hl : Linear p) (hv : PlainVars p) (hσ : GoodBs σ)
    (hdom : ∀ k, lookup k σ ≠ none → k ∈ varsOf p ∧ isAnon k = false) :
    (∀ n e, matchF n p f [] ≠ .err e) ∧ (∀ n e, matchF n p' f [] ≠ .err e) ∧
    ((∃ n rs, matchF n p f [] = .ok rs ∧ ∃ r ∈ rs, ∀ k, lookup k r = lookup k σ) ↔
     (∃ n rs, matchF n p' f [] = .ok rs ∧ ∃ r ∈ rs, ∀ k, lookup k r = lookup k σ)) := by
  have hi := hk.inv [] σ
  exact ⟨fun n e => valid_pattern_never_errs n p f e hp hok hf hv,
    fun n e => valid_pattern_never_errs n p' f e (hi.plain hp) (patOK_keyperm hk hok) hf
      (fun v hm => hv v (hi.vars.mem_iff.mpr hm)),
    order_independent_linear p p' f σ hk hp hf hs hl hv hσ hdom⟩

end Sheens.C03

#print axioms Sheens.C03.valid_pattern_never_errs
#print axioms Sheens.C03.patOK_keyperm
#print axioms Sheens.C03.order_independent_outcome
