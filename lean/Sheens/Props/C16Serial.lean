import Sheens.Serial

/-!
# C16, second sentence: concurrent requests are serialised, no update is lost

For **every** interleaving of the steps (acquire, read, compute, write, release) of any number
of threads: whenever the lock is free, the shared state is the result of running the requests
that have taken the lock so far one after the other, in the order in which they took it
(`serialised`); a request that has completed is in that order exactly once (`no_update_lost`,
`order_nodup`); between acquire and release at most one thread is under way
(`mutual_exclusion`).  The requests are arbitrary functions of the shared state, and their
execution is not atomic in the model — atomicity is what the theorem derives from the lock.

Tie to the source: facts `mcrew_write_under_lock` (each of `Process`, `AddMachine`, `RemMachine`
takes the crew lock once, defers the unlock and does its reads and writes inside it) and
`mcrew_write_before_memory`; probes `noLostUpdate`, `readIsSnapshot`.  Trusted: `sync.RWMutex`
is a lock.
-/

namespace Sheens.C16Serial

open Serial

variable {σ : Type}

@[simp] theorem upd_same {α : Type} (f : Nat → α) (i : Nat) (v : α) : upd f i v i = v := by simp [upd]
theorem upd_other {α : Type} {f : Nat → α} {i j : Nat} {v : α} (h : j ≠ i) : upd f i v j = f j := by simp [upd, h]

theorem seq_snoc (ops : Nat → σ → σ) (init : σ) (o : List Nat) (i : Nat) :
    seq ops init (o ++ [i]) = ops i (seq ops init o) := by simp [seq, List.foldl_append]

/-- what the thread holding the lock knows, by phase -/
def Phase (ops : Nat → σ → σ) (init : σ) (s : St σ) (i : Nat) (o' : List Nat) : Prop :=
  match s.pc i with
  | .acquired => s.shared = seq ops init o'
  | .read x => x = seq ops init o' ∧ s.shared = seq ops init o'
  | .computed x => x = ops i (seq ops init o')
  | .written => s.shared = ops i (seq ops init o')
  | _ => False

def Quiet (s : St σ) (j : Nat) : Prop := s.pc j = .idle ∨ s.pc j = .done

def Inv (ops : Nat → σ → σ) (init : σ) (s : St σ) : Prop :=
  s.order.Nodup ∧
  (∀ j, s.pc j = .idle ↔ j ∉ s.order) ∧
  (match s.lock with
   | none => (∀ j, Quiet s j) ∧ s.shared = seq ops init s.order
   | some i => (∀ j, j ≠ i → Quiet s j) ∧ ∃ o', s.order = o' ++ [i] ∧ Phase ops init s i o')

theorem inv_start (ops : Nat → σ → σ) (init : σ) : Inv ops init (start init) := by
  refine ⟨by simp [start], by simp [start], ?_⟩
  simp [start, Quiet, seq]

section
variable {ops : Nat → σ → σ} {init : σ} {s t : St σ}

/-- a thread that is under way holds the lock -/
theorem holder_of (h : Inv ops init s) (i : Nat)
    (hq : ¬ Quiet s i) :
    s.lock = some i ∧ (∀ j, j ≠ i → Quiet s j) ∧ ∃ o', s.order = o' ++ [i] ∧ Phase ops init s i o' := by
  obtain ⟨_, _, h3⟩ := h
  cases hl : s.lock with
  | none => rw [hl] at h3; exact absurd (h3.1 i) hq
  | some k =>
    rw [hl] at h3
    by_cases hk : i = k
    · subst hk; exact ⟨rfl, h3⟩
    · exact absurd (h3.1 i hk) hq

/-- The holder of the lock takes a step of its request (to `v`, and perhaps writing the shared state)
    or releases the lock (`v = .done`): the order stays, no other thread moves. -/
theorem inv_holder {i : Nat} {v : PC σ} (h : Inv ops init s)
    (hq : ¬ Quiet s i) (hv : v ≠ .idle) (hpc : t.pc = upd s.pc i v) (horder : t.order = s.order)
    (hnext : ∀ o', Phase ops init s i o' →
      (t.lock = s.lock ∧ Phase ops init t i o') ∨ (t.lock = none ∧ v = .done ∧ t.shared = ops i (seq ops init o'))) :
    Inv ops init t := by
  obtain ⟨hl, hq', o', ho, hp⟩ := holder_of h i hq
  obtain ⟨h1, h2, -⟩ := h
  have hothers : ∀ j, j ≠ i → Quiet t j := fun j hj => by
    unfold Quiet; rw [hpc, upd_other hj]; exact hq' j hj
  refine ⟨horder ▸ h1, fun j => ?_, ?_⟩
  · rw [hpc, horder]
    by_cases hj : j = i
    · subst hj; simpa [ho] using hv
    · rw [upd_other hj]; exact h2 j
  · rcases hnext o' hp with ⟨hl', hp'⟩ | ⟨hl', rfl, hs⟩ <;> rw [hl']
    · rw [hl]; exact ⟨hothers, o', horder ▸ ho, hp'⟩
    · refine ⟨fun j => ?_, ?_⟩
      · by_cases hj : j = i
        · subst hj; exact .inr (by rw [hpc, upd_same])
        · exact hothers j hj
      · rw [hs, horder, ho, seq_snoc]

theorem inv_step (h : Inv ops init s) (st : Step ops s t) :
    Inv ops init t := by
  cases st with
  | acquire i hpc hlock =>
    obtain ⟨h1, h2, h3⟩ := h
    rw [hlock] at h3
    have hni : i ∉ s.order := (h2 i).mp hpc
    refine ⟨?_, ?_, ?_⟩
    · exact (List.perm_append_singleton i _).nodup_iff.mpr (List.nodup_cons.mpr ⟨hni, h1⟩)
    · intro j
      by_cases hj : j = i
      · subst hj; simp
      · simp [upd_other hj, h2 j, hj]
    · refine ⟨fun j hj => ?_, s.order, rfl, ?_⟩
      · show upd s.pc i _ j = _ ∨ upd s.pc i _ j = _
        rw [upd_other hj]; exact h3.1 j
      · simp [Phase, h3.2]
  | read i hpc =>
    refine inv_holder (i := i) (v := .read s.shared) h (by simp [Quiet, hpc]) nofun rfl rfl
      fun o' hp => .inl ⟨rfl, ?_⟩
    simp only [Phase, hpc] at hp
    simp [Phase, hp]
  | compute i x hpc =>
    refine inv_holder (i := i) (v := .computed (ops i x)) h (by simp [Quiet, hpc]) nofun rfl rfl
      fun o' hp => .inl ⟨rfl, ?_⟩
    simp only [Phase, hpc] at hp
    simp [Phase, hp.1]
  | write i x hpc =>
    refine inv_holder (i := i) (v := .written) h (by simp [Quiet, hpc]) nofun rfl rfl
      fun o' hp => .inl ⟨rfl, ?_⟩
    simp only [Phase, hpc] at hp
    simp [Phase, hp]
  | release i hpc =>
    refine inv_holder (i := i) (v := .done) h (by simp [Quiet, hpc]) nofun rfl rfl
      fun o' hp => .inr ⟨rfl, rfl, ?_⟩
    simpa only [Phase, hpc] using hp

theorem reachable_inv (h : Reachable ops init s) : Inv ops init s := by
  induction h with
  | start => exact inv_start ops init
  | step _ st ih => exact inv_step ih st

end

/-- **Serialised.**  In every reachable state in which the lock is free, the shared state is the
    sequential composition of the requests that have run, in the order in which they took the
    lock — whatever the interleaving of their steps was. -/
theorem serialised (ops : Nat → σ → σ) (init : σ) (s : St σ) (h : Reachable ops init s) (hl : s.lock = none) :
    s.shared = seq ops init s.order := by
  have := (reachable_inv h).2.2
  rw [hl] at this; exact this.2

/-- each request takes the lock at most once -/
theorem order_nodup (ops : Nat → σ → σ) (init : σ) (s : St σ) (h : Reachable ops init s) : s.order.Nodup :=
  (reachable_inv h).1

/-- **No update is lost.**  A request that has completed is part of that sequential order. -/
theorem no_update_lost (ops : Nat → σ → σ) (init : σ) (s : St σ) (h : Reachable ops init s) (j : Nat)
    (hd : s.pc j = .done) : j ∈ s.order := by
  false_or_by_contra
  next hm => exact nomatch hd.symm.trans (((reachable_inv h).2.1 j).mpr hm)

/-- a request that has not started is not part of it -/
theorem not_started_not_counted (ops : Nat → σ → σ) (init : σ) (s : St σ) (h : Reachable ops init s) (j : Nat)
    (hi : s.pc j = .idle) : j ∉ s.order :=
  ((reachable_inv h).2.1 j).mp hi

/-- **Mutual exclusion.**  Two threads are never both between acquire and release. -/
theorem mutual_exclusion (ops : Nat → σ → σ) (init : σ) (s : St σ) (h : Reachable ops init s) (i j : Nat)
    (hi : ¬ Quiet s i) (hj : ¬ Quiet s j) : i = j := by
  have hinv := reachable_inv h
  exact Option.some.inj ((holder_of hinv i hi).1.symm.trans (holder_of hinv j hj).1)

/-- when every one of the threads `ts` has completed and the lock is free, the shared state is the
    result of running exactly their requests (and those of any other completed thread) in some order
    without repetition -/
theorem all_done_is_a_sequential_run (ops : Nat → σ → σ) (init : σ) (s : St σ) (h : Reachable ops init s)
    (ts : List Nat) (hd : ∀ j ∈ ts, s.pc j = .done) (hl : s.lock = none) :
    ∃ order : List Nat, order.Nodup ∧ (∀ j ∈ ts, j ∈ order) ∧ s.shared = seq ops init order :=
  ⟨s.order, order_nodup ops init s h, fun j hj => no_update_lost ops init s h j (hd j hj), serialised ops init s h hl⟩

/-! Non-vacuity: two increments whose steps interleave as far as the lock lets them (thread 1
acquires first; thread 0 can do nothing until the release) end with both counted. -/

def incOps : Nat → Nat → Nat := fun _ n => n + 1

example : ∃ s : St Nat, Reachable incOps 0 s ∧ s.lock = none ∧ s.order = [1, 0] ∧ s.shared = 2 ∧
    s.pc 0 = .done ∧ s.pc 1 = .done := by
  have r0 : Reachable incOps 0 (start 0) := .start
  have r1 := Reachable.step r0 (Step.acquire _ 1 rfl rfl)
  have r2 := Reachable.step r1 (Step.read _ 1 rfl)
  have r3 := Reachable.step r2 (Step.compute _ 1 0 rfl)
  have r4 := Reachable.step r3 (Step.write _ 1 1 rfl)
  have r5 := Reachable.step r4 (Step.release _ 1 rfl)
  have r6 := Reachable.step r5 (Step.acquire _ 0 rfl rfl)
  have r7 := Reachable.step r6 (Step.read _ 0 rfl)
  have r8 := Reachable.step r7 (Step.compute _ 0 1 rfl)
  have r9 := Reachable.step r8 (Step.write _ 0 2 rfl)
  have r10 := Reachable.step r9 (Step.release _ 0 rfl)
  exact ⟨_, r10, rfl, rfl, rfl, rfl, rfl⟩

end Sheens.C16Serial
