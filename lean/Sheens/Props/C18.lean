import Sheens.ES
import Sheens.Proofs.Permanent

/-!
# Property C18 — permanent bindings

For all bindings and all action/guard *functions* (whatever they delete, overwrite or return).

Bindings are association lists in the model (first hit wins on `lookup`, while `restore` writes the
permanent pairs back one after the other, so the last one wins).  On lists with *duplicate keys* —
which a Go map cannot have — the two disagree and the statements without a duplicate-key hypothesis
are false (`permanent_preserved_full_false`, `permanent_after_step_full_false`,
`permanent_after_step_nodup_false` below, each from a concrete witness).  The theorems therefore
carry `NoDupKeys` hypotheses (`NoDupKeys` is defined in `Sheens/Proofs/Permanent.lean`: the keys are
pairwise distinct): on the given bindings and, for a whole step, on the bindings the action returns
(an `ActionF` is an arbitrary function into association lists, so it could return duplicates too).
-/

namespace Sheens.C18

/-- the statement without a duplicate-key hypothesis: false, see below -/
def permanent_preserved_full : Prop :=
  ∀ (a : ActionF) (bs b' : Bs) (em : List V) (k : String) (v : V),
    (execWrap a (some bs)).exe = some (some b', em) →
    isPermanent k = true → lookup k bs = some v → lookup k b' = some v

/-- After any action or guard that completes and returns bindings, every binding whose name ends
    in '!' that was present beforehand is present with its previous value.
    (`hnd`: the given bindings have no duplicate keys — always so for a Go map.) -/
theorem permanent_preserved (a : ActionF) (bs b' : Bs) (em : List V) (k : String) (v : V)
    (hnd : NoDupKeys bs)
    (hx : (execWrap a (some bs)).exe = some (some b', em))
    (hk : isPermanent k = true) (hv : lookup k bs = some v) :
    lookup k b' = some v :=
  execWrap_keeps hk ⟨hnd, hv⟩ hx

/-- witness: the bindings `[("k!", null), ("k!", true)]` and an action that returns `{}` -/
theorem permanent_preserved_full_false : ¬ permanent_preserved_full := by
  intro h
  have := h (fun _ => { exe := some (some [], []), err := none })
    [("k!", .null), ("k!", .bool true)] [("k!", .bool true)] [] "k!" .null rfl (by decide) rfl
  revert this
  simp [lookup]

/-- A failing action leaves them in place: the error bindings extend the given ones. -/
theorem permanent_after_action_error (bs : Bs) (e : String) (k : String) (v : V)
    (hk : isPermanent k = true) (hv : lookup k bs = some v) :
    lookup k (insertB "error" (.str e) (insertB "actionError" (.str e) bs)) = some v :=
  (lookup_actErrBs hk e (some bs)).trans hv

/-- the statement without a duplicate-key hypothesis: false on duplicate keys, see below -/
def permanent_after_step_full : Prop :=
  ∀ (s : Spec) (st : State) (pending : Option V) (bs : Bs) (sd : Stride)
    (t : State) (k : String) (v : V),
    st.bs = some bs →
    (∀ n a, findNode st.node s.nodes = some n → n.action = some a →
        (execWrap a st.bs).err = none → ∃ b' em, (execWrap a st.bs).exe = some (some b', em)) →
    (step s st pending).stride = some sd → sd.to = some t →
    isPermanent k = true → lookup k bs = some v →
    ∃ tb, t.bs = some tb ∧ lookup k tb = some v

/-- the statement with `NoDupKeys` on the given bindings only: still false, because the action may
    return bindings with duplicate keys, which a following guard's `restore` then scrambles -/
def permanent_after_step_nodup : Prop :=
  ∀ (s : Spec) (st : State) (pending : Option V) (bs : Bs) (sd : Stride)
    (t : State) (k : String) (v : V),
    st.bs = some bs → NoDupKeys bs →
    (∀ n a, findNode st.node s.nodes = some n → n.action = some a →
        (execWrap a st.bs).err = none → ∃ b' em, (execWrap a st.bs).exe = some (some b', em)) →
    (step s st pending).stride = some sd → sd.to = some t →
    isPermanent k = true → lookup k bs = some v →
    ∃ tb, t.bs = some tb ∧ lookup k tb = some v

/-- One step: whenever the step ends in a state (success, action failure under every routing, the
    "followed no branch" transition), every permanent binding of the given state is there with the
    same value — provided the action, if any, returned bindings or failed (an action that completes
    with `null` is outside the property), and the pattern matcher and guards only extend or restore
    (guards are wrapped the same way).

    Extra hypotheses with respect to `permanent_after_step_full`: `hnd` (the given bindings have no
    duplicate keys) and, in `hnn`, `NoDupKeys b'` (neither have the bindings the action hands back;
    by `execWrap_nodup` it is enough that the raw action's bindings have none). -/
theorem permanent_after_step (s : Spec) (st : State) (pending : Option V) (bs : Bs) (sd : Stride)
    (t : State) (k : String) (v : V)
    (hbs : st.bs = some bs) (hnd : NoDupKeys bs)
    (hnn : ∀ n a, findNode st.node s.nodes = some n → n.action = some a →
        (execWrap a st.bs).err = none →
          ∃ b' em, (execWrap a st.bs).exe = some (some b', em) ∧ NoDupKeys b')
    (hs : (step s st pending).stride = some sd) (ht : sd.to = some t)
    (hk : isPermanent k = true) (hv : lookup k bs = some v) :
    ∃ tb, t.bs = some tb ∧ lookup k tb = some v := by
  have hc : Keeps k v bs := ⟨hnd, hv⟩
  cases step_cases s st with
  | nostride r hr h => rw [h, hr] at hs; cases hs
  | errNode n a e hn ha he h =>
    rw [h] at hs; cases hs; cases ht
    exact ⟨_, rfl, hbs ▸ (keeps_actErrBs hk hc e).2⟩
  | rest n c em _ hn hent h =>
    rw [h] at hs
    cases hent with
    | noaction => rw [hbs] at hs; exact stepRest_keeps hk hc hs ht
    | ok a ha hm he =>
      obtain ⟨b', em, hx, hnd'⟩ := hnn n a hn ha he
      rw [hx] at hs
      exact stepRest_keeps hk ⟨hnd', execWrap_keeps hk hc (by rw [← hbs]; exact hx)⟩ hs ht
    | errBranches a e => rw [hbs] at hs; exact stepRest_keeps hk (keeps_actErrBs hk hc e) hs ht

/-- a guard that accepts and returns the bindings it was given -/
def idGuard : ActionF := fun bs => { exe := some (bs, []), err := none }

/-- bindings branching with one guarded branch (no pattern) to node `m`, optionally after an action -/
def cexSpec (a : Option ActionF) : Spec :=
  { name := "cex", compiled := true, actionErrorBranches := false, actionErrorNode := "",
    nodes := [("n", { action := a, hasSource := false,
                      branches := some { type := "bindings",
                                         branches := [{ pattern := none, guard := some idGuard,
                                                        target := "m" }] } })] }

/-- witness 1: duplicate keys in the given bindings; the guard's `restore` makes the last one win -/
theorem permanent_after_step_full_false : ¬ permanent_after_step_full := by
  intro h
  obtain ⟨tb, h1, h2⟩ := h (cexSpec none) { node := "n", bs := some [("k!", .null), ("k!", .bool true)] }
    none [("k!", .null), ("k!", .bool true)]
    { frm := { node := "n", bs := some [("k!", .null), ("k!", .bool true)] },
      to := some { node := "m", bs := some [("k!", .bool true), ("k!", .bool true)] },
      consumed := none, emitted := [] }
    { node := "m", bs := some [("k!", .bool true), ("k!", .bool true)] } "k!" .null
    rfl (by intro n a hn ha; cases hn; cases ha) rfl rfl (by decide) rfl
  cases h1
  revert h2
  simp [lookup]

/-- an action that returns bindings with a duplicate key -/
def dupAction : ActionF :=
  fun _ => { exe := some (some [("k!", .bool true), ("k!", .bool false)], []), err := none }

/-- witness 2: the given bindings `{"k!": null}` are duplicate-free, the action returns a duplicate
    key; `execWrap` restores the first occurrence, the guard's `execWrap` then writes both
    "permanent" pairs back and the last one wins -/
theorem permanent_after_step_nodup_false : ¬ permanent_after_step_nodup := by
  intro h
  obtain ⟨tb, h1, h2⟩ := h (cexSpec (some dupAction)) { node := "n", bs := some [("k!", .null)] }
    none [("k!", .null)]
    { frm := { node := "n", bs := some [("k!", .null)] },
      to := some { node := "m", bs := some [("k!", .bool false), ("k!", .bool false)] },
      consumed := none, emitted := [] }
    { node := "m", bs := some [("k!", .bool false), ("k!", .bool false)] } "k!" .null
    rfl (List.pairwise_singleton _ _)
    (by intro n a hn ha _; cases hn; cases ha; exact ⟨_, _, rfl⟩) rfl rfl (by decide) rfl
  cases h1
  revert h2
  simp [lookup]

end Sheens.C18
