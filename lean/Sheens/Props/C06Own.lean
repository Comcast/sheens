import Sheens.Proofs.OwnWalk

/-!
# Property C06, ownership layer — a step never modifies what it is given, returns no shared map

Theorems about `Own.stepH` and `Own.walkH` (`Sheens/Own.lean`: `Spec.Step` and `Spec.Walk` over a heap of
bindings maps):

* `stepH_frame`: every map that existed before the call — the given state's bindings, the maps of
  other machines, anything — has the same content afterwards, whatever the actions and guards do
  within their contract (`Own.Respects`), on every path (failing action, rejecting guard, error
  node, no branch followed);
* `stepH_fresh`: the bindings of the returned `From` and `To` states are maps that did not exist
  before the call, and they are two different maps;
* `stepH_refines`: read back through the heap, the result is exactly the pure model's `step` — the
  function all other theorems (C04–C08, C18) are about.

`Clean` (no duplicate keys in any cell) is the list model's rendering of "a Go map has each key
once"; see C18 for why the permanent write-back needs it.
-/

namespace Sheens.C06
open Own

/-! `Clean` (every cell holds a map without duplicate keys), `KeepsClean` (actions and guards hand
back clean heaps), `SameBelow` (every map that existed in `h` has the same content in `h'`) and
`StateOk` (the given state's map, if any, exists) are defined in `Sheens/Proofs/OwnHeap.lean`, in this
namespace; the proofs are `stepH_spec` (`Sheens/Proofs/OwnStepH.lean`) read four ways. -/

theorem stepH_frame (s : SpecH) (hs : s.Good) (hk : KeepsClean s) (st : StateH) (pending : Option V)
    (h : Heap) (hwf : h.WF) (hc : Clean h) (hst : StateOk h st) :
    (stepH s st pending h).1.WF ∧ Clean (stepH s st pending h).1 ∧
    h.next ≤ (stepH s st pending h).1.next ∧ SameBelow h (stepH s st pending h).1 :=
  Grows.frame (stepH_spec s hs hk st pending ⟨hwf, hc⟩ hst).grows

/-- in particular the caller's own state reads as before -/
theorem stepH_leaves_given_state (s : SpecH) (hs : s.Good) (hk : KeepsClean s) (st : StateH)
    (pending : Option V) (h : Heap) (hwf : h.WF) (hc : Clean h) (hst : StateOk h st) :
    content (stepH s st pending h).1 st.bs = content h st.bs :=
  (stepH_spec s hs hk st pending ⟨hwf, hc⟩ hst).grows.content hst

theorem stepH_fresh (s : SpecH) (hs : s.Good) (hk : KeepsClean s) (st : StateH) (pending : Option V)
    (h : Heap) (hwf : h.WF) (hc : Clean h) (hst : StateOk h st) (sd : StrideH)
    (hsd : (stepH s st pending h).2.stride = some sd) :
    (∃ a, sd.frm.bs = some a ∧ h.next ≤ a ∧ ((stepH s st pending h).1.get a).isSome) ∧
    (∀ t, sd.to = some t →
       ∃ b, t.bs = some b ∧ h.next ≤ b ∧ sd.frm.bs ≠ some b ∧ ((stepH s st pending h).1.get b).isSome) :=
  ((stepH_spec s hs hk st pending ⟨hwf, hc⟩ hst).post.2 sd hsd).fresh

theorem stepH_refines (s : SpecH) (hs : s.Good) (hk : KeepsClean s) (st : StateH) (pending : Option V)
    (h : Heap) (hwf : h.WF) (hc : Clean h) (hst : StateOk h st) :
    (stepH s st pending h).2.abs (stepH s st pending h).1 = step s.abs (st.abs h) pending :=
  (stepH_spec s hs hk st pending ⟨hwf, hc⟩ hst).post.1

/-! ## The contract is satisfiable, including by an action that hands back the very map it got -/

/-- an interpreter-style action: computes on the content, hands back a new map -/
def freshAct (f : ActionF) : Act :=
  { run := fun h arg =>
      let out := f (content h arg)
      match out.exe with
      | none => (h, { exe := none, err := out.err })
      | some (none, em) => (h, { exe := some (none, em), err := out.err })
      | some (some b, em) => let (h1, a) := h.alloc b; (h1, { exe := some (some a, em), err := out.err })
    pure := f }

theorem freshAct_respects (f : ActionF) : Respects (freshAct f) := by
  refine ⟨?_, ?_, ?_, ?_, ?_⟩
  · intro h arg hwf _
    simp only [freshAct]
    rcases (f (content h arg)).exe with _ | ⟨_ | b, em⟩
    · exact hwf
    · exact hwf
    · intro c hc
      rcases List.mem_cons.mp hc with hc | hc
      · subst hc; exact Nat.lt_succ_self _
      · exact Nat.lt_succ_of_lt (hwf c hc)
  · intro h arg
    simp only [freshAct]
    rcases (f (content h arg)).exe with _ | ⟨_ | b, em⟩
    · exact Nat.le_refl _
    · exact Nat.le_refl _
    · exact Nat.le_succ _
  · intro h arg x hx
    simp only [freshAct]
    rcases (f (content h arg)).exe with _ | ⟨_ | b, em⟩
    · rfl
    · rfl
    · exact get_alloc_ne h b x (Nat.ne_of_lt hx)
  · intro h arg r em _ _
    simp only [freshAct]
    rcases (f (content h arg)).exe with _ | ⟨_ | b, em'⟩
    · intro hx; cases hx
    · intro hx; cases hx
    · intro hx
      cases hx
      refine ⟨Or.inr (Nat.le_refl _), Nat.lt_succ_self _, ?_⟩
      show ((h.alloc b).1.get h.next).isSome = true
      rw [get_alloc_self]
      rfl
  · intro h arg _ _
    simp only [freshAct]
    generalize f (content h arg) = out
    obtain ⟨exe, err⟩ := out
    rcases exe with _ | ⟨_ | b, em⟩
    · rfl
    · rfl
    · simp only [absOut, Option.map_some, content_some]
      rw [alloc_addr, get_alloc_self]

/-- a native action that emits and hands back the map it was given, untouched -/
def sameMapAct (em : List V) : Act :=
  { run := fun h arg => (h, { exe := some (arg, em), err := none })
    pure := fun bs => { exe := some (bs, em), err := none } }

theorem sameMapAct_respects (em : List V) : Respects (sameMapAct em) := by
  refine ⟨fun h arg hwf _ => hwf, fun h arg => Nat.le_refl _, fun h arg x _ => rfl, ?_, ?_⟩
  · intro h arg r em' _ harg hx
    simp only [sameMapAct, Option.some.injEq, Prod.mk.injEq] at hx
    obtain ⟨hx, _⟩ := hx
    exact ⟨Or.inl hx.symm, (harg r hx).1, (harg r hx).2⟩
  · intro h arg _ _
    rfl

/-- Why `Respects.result` asks that the given map exists (not only that its address was handed out):
    with the hypothesis `∀ x, arg = some x → x < h.next` only, the field fails for
    `sameMapAct` on a heap whose address 0 was handed out but holds no cell. -/
theorem sameMapAct_result_needs_existing_arg (em : List V) :
    ¬ (∀ (h : Heap) (arg : Option Addr) (r : Addr) (em' : List V), h.WF →
        (∀ x, arg = some x → x < h.next) →
        ((sameMapAct em).run h arg).2.exe = some (some r, em') →
        (some r = arg ∨ h.next ≤ r) ∧ r < ((sameMapAct em).run h arg).1.next ∧
          (((sameMapAct em).run h arg).1.get r).isSome) := by
  intro hall
  have := hall { cells := [], next := 1 } (some 0) 0 em (fun c hc => by cases hc)
    (fun x hx => by cases hx; exact Nat.lt_succ_self _) rfl
  have h3 := this.2.2
  simp [sameMapAct, Heap.get] at h3


/-! ## The same for a whole walk -/

theorem walkH_spec {s : SpecH} (hs : s.Good) (hk : KeepsClean s) {st : StateH} {msgs : List V}
    {limit : Option Int} {bp : State → Bool} {h : Heap} (hwf : h.WF) (hc : Clean h) (hst : StateOk h st) :
    Ran h (walkH s st msgs limit bp h) (WalkIs h.next (walk s.abs (st.abs h) msgs limit bp)) :=
  walkLoopH_spec s hs hk bp h.next _ st msgs [] h ⟨hwf, hc⟩ hst (Nat.le_refl _) fun _ => nofun

theorem walkH_frame (s : SpecH) (hs : s.Good) (hk : KeepsClean s) (st : StateH) (msgs : List V)
    (limit : Option Int) (bp : State → Bool) (h : Heap) (hwf : h.WF) (hc : Clean h) (hst : StateOk h st) :
    (walkH s st msgs limit bp h).1.WF ∧ Clean (walkH s st msgs limit bp h).1 ∧
    h.next ≤ (walkH s st msgs limit bp h).1.next ∧ SameBelow h (walkH s st msgs limit bp h).1 :=
  Grows.frame (walkH_spec hs hk hwf hc hst).grows

/-- every state a walk reports holds a map that did not exist before the call -/
theorem walkH_fresh (s : SpecH) (hs : s.Good) (hk : KeepsClean s) (st : StateH) (msgs : List V)
    (limit : Option Int) (bp : State → Bool) (h : Heap) (hwf : h.WF) (hc : Clean h) (hst : StateOk h st) :
    ∀ sd ∈ (walkH s st msgs limit bp h).2.strides,
      (∃ a, sd.frm.bs = some a ∧ h.next ≤ a ∧ ((walkH s st msgs limit bp h).1.get a).isSome) ∧
      (∀ t, sd.to = some t →
        ∃ b, t.bs = some b ∧ h.next ≤ b ∧ sd.frm.bs ≠ some b ∧ ((walkH s st msgs limit bp h).1.get b).isSome) :=
  fun sd hsd => ((walkH_spec hs hk hwf hc hst).post.1 sd hsd).fresh

/-- read back through the final heap, the walk is the pure model's `walk` -/
theorem walkH_refines (s : SpecH) (hs : s.Good) (hk : KeepsClean s) (st : StateH) (msgs : List V)
    (limit : Option Int) (bp : State → Bool) (h : Heap) (hwf : h.WF) (hc : Clean h) (hst : StateOk h st) :
    (walkH s st msgs limit bp h).2.abs (walkH s st msgs limit bp h).1 =
      walk s.abs (st.abs h) msgs limit bp :=
  (walkH_spec hs hk hwf hc hst).post.2

end Sheens.C06
