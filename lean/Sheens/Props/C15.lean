import Sheens.SioCrew
import Sheens.Proofs.ChangeLemmas
import Sheens.Proofs.SioLemmas

/-!
# Property C15 — reported changes suffice

Over the model of `sio/crew.go`: `setMachine`, `deleteMachine`, `runMachine`, `getChanged` (with its
suppression cache), the reference consumer's fold `applyChanges`, and `rebuild`.

Views are compared pointwise (per machine id), with a machine stored without a state standing for
the default state — exactly what the boot path does with it.

One behaviour of the code makes the full statement false: a machine that is deleted and then set
again *before the deletion has been reported* (both inside one `ProcessMsg`) is reported as
deleted only (`Changed.Deleted` is never cleared).  The theorems carry the hypothesis that this
does not happen (`NoPendingDelete`); the negation of the full statement is proved from a concrete
witness and replayed against the implementation (known finding KF-C15-1).

The invariant has a third conjunct: the cached changes have distinct machine ids.  `Crew.changed` is
a Go map, so this is a fact of the representation; the model's `put` maintains it and every crew
starts with `changed = []`.  Without it the operation lemmas are false of the list model
(`inv_setMachine_full_false` below).  `getChanged_sufficient` needs only the first two conjuncts.
-/

namespace Sheens.C15

open Sio

def ordinary (mid : String) : Bool := mid != captainId && mid != timersId

/-- what the live crew says about a machine -/
def liveAt (c : Crew) (mid : String) : Option (State × Option V) :=
  (find mid c.machines).map (fun m => (defaultState (some m.state), m.src))

/-- what a store says about a machine (no stored state = the default state, as on boot) -/
def storeAt (store : List (String × Stored)) (mid : String) : Option (State × Option V) :=
  (find mid store).map (fun s => (defaultState s.state, s.src))

/-- the net report `getChanged` would make for the cached changes, before suppression -/
def pendingNet (c : Crew) : List (String × Changed) :=
  (c.changed.filter (fun p => p.1 != captainId)).map (fun (mid, ch) =>
    if ch.deleted then (mid, { state := none, src := none, deleted := true })
    else (mid, { state := ch.state.map stateCopy, src := ch.src, deleted := false }))

/-- The first two parts of the invariant between a crew (with its not-yet-reported changes) and the
    consumer's store: applying the pending changes to the store gives the live crew, machine by
    machine; and the store already reflects every report remembered in the suppression cache. -/
def InvCore (c : Crew) (store : List (String × Stored)) : Prop :=
  (∀ mid, ordinary mid = true → storeAt (applyChanges store (pendingNet c)) mid = liveAt c mid) ∧
  (∀ mid p, find mid c.previous = some p → applyChanges store [(mid, p)] = store)

/-- The invariant between a crew (with its not-yet-reported changes) and the consumer's store:
    applying the pending changes to the store gives the live crew, machine by machine; the
    store already reflects every report remembered in the suppression cache; and the cached changes
    have distinct ids (`changed` is a map). -/
def Inv (c : Crew) (store : List (String × Stored)) : Prop :=
  (∀ mid, ordinary mid = true → storeAt (applyChanges store (pendingNet c)) mid = liveAt c mid) ∧
  (∀ mid p, find mid c.previous = some p → applyChanges store [(mid, p)] = store) ∧
  (c.changed.map (·.1)).Nodup

theorem Inv.core {c : Crew} {store : List (String × Stored)} (h : Inv c store) : InvCore c store :=
  ⟨h.1, h.2.1⟩

/-- no cached change of the crew carries a pending deletion for this id -/
def NoPendingDelete (c : Crew) (mid : String) : Prop := (changeOf c mid).deleted = false

theorem ordinary_ne {mid : String} (h : ordinary mid = true) : mid ≠ captainId ∧ mid ≠ timersId := by
  simpa [ordinary] using h

theorem pendingNet_eq (c : Crew) : pendingNet c = netList c.changed := netList_eq _

/-- what the store will say about a machine once the pending changes are reported: the cached change,
    as a function on views, applied to what it says now -/
theorem storeAt_pending {c : Crew} {store : List (String × Stored)} (hn : (c.changed.map (·.1)).Nodup)
    {mid : String} (hmid : ordinary mid = true) :
    storeAt (applyChanges store (pendingNet c)) mid = effV (find mid c.changed) (storeAt store mid) := by
  rw [pendingNet_eq]
  exact view_apply_netList hn (ordinary_ne hmid).1

/-- the invariant read at one machine id -/
theorem Inv.at {c : Crew} {store : List (String × Stored)} (h : Inv c store) {mid : String}
    (hmid : ordinary mid = true) : effV (find mid c.changed) (storeAt store mid) = liveAt c mid :=
  (storeAt_pending h.2.2 hmid).symm.trans (h.1 mid hmid)

/-- An operation that touches only machine `mid`, caches `ch'` for it, and does to the live view of
    `mid` the same `g` that `ch'` adds to the change pending before. -/
theorem inv_update {c c' : Crew} {store : List (String × Stored)} {mid : String} {ch' : Changed}
    (g : Option View → Option View)
    (h : Inv c store) (hprev : c'.previous = c.previous) (hch : c'.changed = put mid ch' c.changed)
    (hmach : ∀ k, k ≠ mid → liveAt c' k = liveAt c k)
    (hact : ∀ v, actV ch' v = g (effV (find mid c.changed) v))
    (hlive : liveAt c' mid = g (liveAt c mid)) :
    Inv c' store := by
  have hn : (c'.changed.map (·.1)).Nodup := by rw [hch]; exact nodup_keys_put h.2.2
  refine ⟨?_, ?_, hn⟩
  · intro k hk
    rw [storeAt_pending hn hk, hch]
    by_cases hkm : k = mid
    · subst hkm
      rw [find_put_self, hlive, ← h.at hk]
      exact hact _
    · rw [find_put_ne hkm, hmach k hkm]
      exact h.at hk
  · rw [hprev]; exact h.2.1

theorem liveAt_setMachine (resolve : V → Option Spec) (c : Crew) (mid k : String) (src : Option V)
    (state : Option State) :
    liveAt (setMachine resolve c mid src state) k =
      if k = mid then some (setV src state (liveAt c mid)) else liveAt c k := by
  rw [setMachine_eq]
  show (find k (put mid _ c.machines)).map mview = _
  rw [find_put]
  split
  · exact congrArg some (mview_newM ..)
  · rfl

theorem inv_setMachine (resolve : V → Option Spec) (c : Crew) (store : List (String × Stored))
    (mid : String) (src : Option V) (state : Option State)
    (hmid : ordinary mid = true) (hnd : NoPendingDelete c mid)
    (hreport : (find mid c.machines).isNone → src.isSome ∨ state.isSome)
    (h : Inv c store) : Inv (setMachine resolve c mid src state) store := by
  have _ := hmid   -- not needed: the invariant speaks of ordinary ids only
  by_cases hrep : (src.isSome || state.isSome) = true
  · refine inv_update (fun v => some (setV src state v)) h (by rw [setMachine_eq])
      (by rw [setMachine_eq]; exact if_pos hrep)
      (fun k hk => by rw [liveAt_setMachine, if_neg hk])
      (actV_newCh hnd src state) (by rw [liveAt_setMachine, if_pos rfl])
  · -- nothing to set on a machine that exists: the crew is unchanged
    obtain ⟨rfl, rfl⟩ : src = none ∧ state = none := by
      simpa only [Bool.or_eq_true, not_or, Option.not_isSome_iff_eq_none] using hrep
    cases hfm : find mid c.machines with
    | none => exact (hreport (hfm ▸ rfl)).elim nofun nofun
    | some m0 =>
      have : setMachine resolve c mid none none = c := by
        rw [setMachine_eq, hfm]
        exact congrArg ({ c with machines := · }) (put_eq_self_iff.mpr hfm)
      rw [this]; exact h

theorem inv_deleteMachine (c : Crew) (store : List (String × Stored)) (mid : String)
    (hmid : ordinary mid = true) (h : Inv c store) : Inv (deleteMachine c mid) store := by
  have _ := hmid
  refine inv_update (c' := deleteMachine c mid) (fun _ => none) h rfl rfl
    (fun _ hk => congrArg (·.map mview) (find_del_ne hk)) (fun _ => rfl) ?_
  exact congrArg (·.map mview) find_del_self

theorem inv_runMachine (c : Crew) (store : List (String × Stored)) (mid : String) (m : Machine) (msg : V)
    (hmid : ordinary mid = true) (hm : find mid c.machines = some m) (hnd : NoPendingDelete c mid)
    (h : Inv c store) : Inv (runMachine c mid m msg).1 store := by
  have _ := hmid   -- not needed: the invariant speaks of ordinary ids only
  rw [runMachine_crew]
  cases walked c m msg with
  | none => exact h
  | some t =>
    refine inv_update (fun v => some (setV none (some t) v)) h rfl rfl
      (fun _ hk => congrArg (·.map mview) (find_put_ne hk)) (actV_setState hnd _) ?_
    show (find mid (put mid _ c.machines)).map mview = _
    rw [find_put_self, liveAt, hm]
    rfl

/-- `getChanged_sufficient` does not need the distinct-ids part of the invariant. -/
theorem getChanged_sufficient_core (same : Changed → Changed → Bool) (c : Crew) (store : List (String × Stored))
    (hsame : ∀ a b, same a b = true → ∀ st mid, applyChanges st [(mid, a)] = applyChanges st [(mid, b)])
    (h : InvCore c store) :
    let r := getChanged same c
    (∀ mid, ordinary mid = true → storeAt (applyChanges store r.2) mid = liveAt r.1 mid) ∧
    Inv r.1 (applyChanges store r.2) := by
  intro r
  have hr : r = _ := getChanged_eq same c
  obtain ⟨h1, h2⟩ := gfold_inv hsame store (netList c.changed) c.previous [] h.2
  have ha : ∀ mid, ordinary mid = true → storeAt (applyChanges store r.2) mid = liveAt r.1 mid := by
    intro mid hmid
    rw [hr]
    simp only
    rw [h1, ← pendingNet_eq]
    exact h.1 mid hmid
  refine ⟨ha, ha, ?_, ?_⟩
  · rw [hr]; exact h2
  · rw [hr]; exact List.nodup_nil

/-- After `getChanged`, a store that applies the reported changes equals the live crew, and the
    invariant holds again (with nothing pending).  `same` may be any test that only identifies
    reports with the same effect. -/
theorem getChanged_sufficient (same : Changed → Changed → Bool) (c : Crew) (store : List (String × Stored))
    (hsame : ∀ a b, same a b = true → ∀ st mid, applyChanges st [(mid, a)] = applyChanges st [(mid, b)])
    (h : Inv c store) :
    let r := getChanged same c
    (∀ mid, ordinary mid = true → storeAt (applyChanges store r.2) mid = liveAt r.1 mid) ∧
    Inv r.1 (applyChanges store r.2) :=
  getChanged_sufficient_core same c store hsame h.core

/-- The full statement is false of the code: delete then re-create inside one round. -/
def resurrect_full : Prop :=
  ∀ (resolve : V → Option Spec) (c : Crew) (store : List (String × Stored)) (mid : String)
    (src : Option V) (state : Option State),
    ordinary mid = true → ((find mid c.machines).isNone → src.isSome ∨ state.isSome) →
    Inv c store → Inv (setMachine resolve c mid src state) store

/-- the witness: machine "m" is stored, was deleted, and the deletion is not yet reported -/
def witnessCrew : Crew :=
  { machines := [], changed := [("m", { state := none, src := none, deleted := true })],
    previous := [], limit := none }

def witnessStore : List (String × Stored) := [("m", { state := none, src := none })]

def witnessState : State := { node := "start", bs := some [] }

theorem witness_inv : Inv witnessCrew witnessStore :=
  ⟨fun _ _ => rfl, fun _ _ => nofun, List.nodup_cons.mpr ⟨nofun, .nil⟩⟩

theorem resurrect_full_false : ¬ resurrect_full := by
  intro hfull
  have h := hfull (fun _ => none) witnessCrew witnessStore "m" none (some witnessState)
    (by decide +kernel) (fun _ => Or.inr rfl) witness_inv
  -- the cached change stays a deletion: the store will say nothing of "m", the crew has it
  exact nomatch h.1 "m" (by decide +kernel)

/-! ## Why the invariant says that the cached changes have distinct ids

`Crew.changed` is a Go map.  In the list model a `changed` list with two entries for one id can
satisfy the first two parts of the invariant, and then `setMachine` (which rewrites the first entry
only) breaks them. -/

/-- `inv_setMachine` over the two-part invariant: false of the list model. -/
def inv_setMachine_full : Prop :=
  ∀ (resolve : V → Option Spec) (c : Crew) (store : List (String × Stored)) (mid : String)
    (src : Option V) (state : Option State),
    ordinary mid = true → NoPendingDelete c mid →
    ((find mid c.machines).isNone → src.isSome ∨ state.isSome) →
    InvCore c store → InvCore (setMachine resolve c mid src state) store

def dupCrew : Crew :=
  { machines := [("m", { spec := none, src := none, state := { node := "b", bs := some [] } })],
    changed := [("m", { state := some { node := "a", bs := some [] }, src := none, deleted := false }),
                ("m", { state := some { node := "b", bs := some [] }, src := none, deleted := false })],
    previous := [], limit := none }

theorem dupCrew_invCore : InvCore dupCrew [] := by
  refine ⟨fun mid _ => ?_, fun _ _ => nofun⟩
  show storeAt [("m", { state := some { node := "b", bs := some [] }, src := none })] mid = _
  simp only [storeAt, liveAt, dupCrew, find]
  split <;> rfl

theorem inv_setMachine_full_false : ¬ inv_setMachine_full := by
  intro hfull
  have h := hfull (fun _ => none) dupCrew [] "m" none (some { node := "c", bs := some [] })
    (by decide +kernel) rfl (fun _ => Or.inr rfl) dupCrew_invCore
  -- the first of the two entries is rewritten and the second still wins: the store will say `b`, the crew `c`
  exact absurd (congrArg (·.map (·.1.node)) (h.1 "m" (by decide +kernel))) (show some "b" ≠ some "c" by decide +kernel)

/-- A crew rebuilt from the store has the same machines in the same states with the same specs. -/
theorem rebuild_equiv (resolve : V → Option Spec) (limit : Option Int) (store : List (String × Stored))
    (hnd : (store.map (·.1)).Nodup) (mid : String) (hmid : ordinary mid = true) :
    liveAt (rebuild resolve limit store) mid = storeAt store mid := by
  obtain ⟨hc, ht⟩ := ordinary_ne hmid
  -- each stored machine is set once, on a crew that knows only the two service machines
  refine (foldl_find (k := mid) (obs := fun c => liveAt c mid) (g := fun v s => some (setV s.src s.state v))
    (fun c p h => ?_) (fun c s => ?_) store _ hnd).trans ?_
  · exact (liveAt_setMachine ..).trans (if_neg h.symm)
  · exact (liveAt_setMachine ..).trans (if_pos rfl)
  · simp only [liveAt, find, if_neg hc, if_neg ht, Option.map_none, storeAt]
    cases find mid store with
    | none => rfl
    | some s => exact congrArg some (setV_none ..)

end Sheens.C15
