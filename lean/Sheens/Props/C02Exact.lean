import Sheens.Props.C02
import Sheens.Proofs.RunExact

/-!
# Property C02, second sentence — for a plain linear pattern the returned sets are exactly the embeddings

"For a pattern whose variables are plain (not optional, not inequality), each occur once and are not
pre-bound, the returned sets are exactly the embeddings of the pattern into the message."

One direction is `match_complete_partial` / `match_complete_binds` (every embedding is returned).
This file proves the other: every returned set *is* an embedding (`Emb`, exact at variable
positions) and binds only variables of the pattern.

The proof of `match_exact_sound` is an induction on `Run` (`Sheens/Proofs/RunExact.lean`,
`Run.exact`): started from the empty bindings on a linear pattern, every variable
position is reached with that variable still unbound, so the matcher conses `(v, message value)`;
`matchBound`, `inequal` and the optional fall-backs are never taken.
-/

namespace Sheens.C02

/-- every variable (other than the anonymous one) occurs at most once -/
def Linear (p : V) : Prop := ((varsOf p).filter (fun v => !isAnon v)).Nodup

/-- the variables are plain: neither optional nor inequality-named -/
def PlainVars (p : V) : Prop := ∀ v ∈ varsOf p, isOptVar (.str v) = false ∧ ineqOf v = none

/-- Every returned set is an embedding and binds only the pattern's variables. -/
theorem match_exact_sound (n : Nat) (p f : V) (rs : List Bs) (r : Bs)
    (hp : p.plainPat = true) (hf : f.good = true) (hl : Linear p) (hv : PlainVars p)
    (h : matchF n p f [] = .ok rs) (hr : r ∈ rs) :
    Emb [] r p f ∧ (∀ k, lookup k r ≠ none → k ∈ varsOf p) := by
  obtain ⟨hpost, hemb⟩ := (matchF_run h r hr).exact hp hf ⟨hl, hv, fun _ _ _ => rfl⟩
  exact ⟨hemb, fun k hk => ((hpost.keys k hk).resolve_left fun h => h rfl).1⟩

/-- a little more: the anonymous variable is never bound -/
theorem match_exact_sound_keys (n : Nat) (p f : V) (rs : List Bs) (r : Bs)
    (hp : p.plainPat = true) (hf : f.good = true) (hl : Linear p) (hv : PlainVars p)
    (h : matchF n p f [] = .ok rs) (hr : r ∈ rs) :
    ∀ k, lookup k r ≠ none → k ∈ varsOf p ∧ isAnon k = false :=
  fun k hk =>
    (((matchF_run h r hr).exact hp hf ⟨hl, hv, fun _ _ _ => rfl⟩).1.keys k hk).resolve_left fun h => h rfl

theorem occurrences_le_one {p : V} (hl : Linear p) {v : String} (hn : isAnon v = false) :
    occurrences v p ≤ 1 := by
  unfold occurrences
  rw [← List.count_eq_length_filter, ← List.count_filter (p := fun a => !isAnon a) (by simp [hn])]
  exact List.nodup_iff_count.mp hl v

/-- Exactly the embeddings: an assignment `σ` whose domain is the pattern's (non-anonymous)
    variables embeds the pattern into a set-like message iff it is (up to lookup) one of the
    returned sets. -/
theorem match_exact (p f : V) (σ : Bs)
    (hp : p.plainPat = true) (hf : f.good = true) (hs : setLike f = true)
    (hl : Linear p) (hv : PlainVars p) (hσ : GoodBs σ)
    (hdom : ∀ k, lookup k σ ≠ none → k ∈ varsOf p ∧ isAnon k = false) :
    Emb [] σ p f ↔
      ∃ n rs, matchF n p f [] = .ok rs ∧ ∃ r ∈ rs, (∀ k, lookup k r = lookup k σ) := by
  constructor
  · intro hemb
    have hrep : RepeatScalar p [] σ := by
      intro v x hlk hc
      exfalso
      rcases hc with hc | hc
      · have hd := hdom v (by rw [hlk]; simp)
        exact Nat.not_succ_le_self 1 (Nat.le_trans hc (occurrences_le_one hl hd.2))
      · exact hc rfl
    obtain ⟨n, rs, h, r, hr, hsub, _, hbinds⟩ :=
      match_complete_binds p f [] σ hp hf hs (fun _ _ h => nomatch h) hσ (fun _ _ h => nomatch h)
        (fun v hvv hne => absurd (hv v hvv).2 hne) hrep
        (optOnce_of_noOpt (fun v hvv => (hv v hvv).1))
        (ineqBaseNum_of_noIneq (fun v hvv => (hv v hvv).2)) hemb
    refine ⟨n, rs, h, r, hr, fun k => ?_⟩
    cases hlr : lookup k r with
    | some x => exact (hsub k x hlr).symm
    | none =>
      cases hls : lookup k σ with
      | none => rfl
      | some y =>
        have hd := hdom k (by rw [hls]; simp)
        have := hbinds k hd.1 (hv k hd.1).1 hd.2
        rw [hlr, hls] at this
        exact this
  · rintro ⟨n, rs, h, r, hr, heq⟩
    have hemb := (match_exact_sound n p f rs r hp hf hl hv h hr).1
    exact Emb.mono (fun k x hk => by rw [← heq k]; exact hk) hemb

/-! ## Non-vacuity: the hypotheses are decidable and hold of concrete instances -/

instance (p : V) : Decidable (Linear p) := by unfold Linear; infer_instance
instance (p : V) : Decidable (PlainVars p) := by unfold PlainVars; infer_instance

/-- a repeated variable is not linear -/
example : ¬ Linear (.arr [.arr [.str "?x"], .arr [.str "?x"]]) := by decide +kernel

theorem ex2_dom : ∀ k, lookup k ex2S ≠ none → k ∈ varsOf ex2P ∧ isAnon k = false := by
  intro k hk
  cases h : lookup k ex2S with
  | none => exact absurd h hk
  | some v =>
    exact (by decide +kernel : ∀ kv ∈ ex2S, kv.1 ∈ varsOf ex2P ∧ isAnon kv.1 = false) _
      (mem_of_lookup h)

/-- `{"?k": {"n": "?v"}}` in `{"a": 1, "b": {"n": 2, "m": 3}}`: the embedding `ex2S` is returned … -/
example : ∃ n rs, matchF n ex2P ex2F [] = .ok rs ∧ ∃ r ∈ rs, ∀ k, lookup k r = lookup k ex2S := by
  refine (match_exact ex2P ex2F ex2S ?_ ?_ ?_ ?_ ?_ ?_ ex2_dom).mp ex2_emb
  all_goals decide +kernel

/-- … and the (only) returned set is an embedding -/
example : Emb [] [("?v", .num 2), ("?k", .str "b")] ex2P ex2F := by
  refine (match_exact_sound 40 ex2P ex2F [[("?v", .num 2), ("?k", .str "b")]] _ ?_ ?_ ?_ ?_
    (by rfl) List.mem_cons_self).1
  all_goals decide +kernel

/-- nested arrays with extra message elements -/
example : Linear ex1P ∧ PlainVars ex1P := by decide +kernel

end Sheens.C02

#print axioms Sheens.C02.match_exact_sound
#print axioms Sheens.C02.match_exact
