import Sheens.Gen.Facts

/-!
# Tie B: the regenerated source facts are the ones the models assume

`Sheens/Gen/Facts.lean` is rewritten from /repo's working tree by `go/factgen` on every check
run; the theorems below are re-checked by `decide` against what the code says *now*.  A theorem
that stops checking names the structural assumption the hand-written model no longer shares with
the source.  (Textual expectations are deliberately exact: a harmless rewrite can break them too,
in which case the check reports that the obligation no longer checks and searches for a failing
input before concluding anything.)
-/

namespace FactsOK
open Facts

def stmt (k : String) : List String := (stmts.filter (fun p => p.1 == k)).map (·.2)
def const (k : String) : List String := (consts.filter (fun p => p.1 == k)).map (·.2)
def seq (k : String) : List String := ((seqs.filter (fun p => p.1 == k)).map (·.2)).flatten
def writesOf (fns : List String) : List Write := writes.filter (fun w => fns.contains w.fn)
def isMutatorCall (w : Write) : Bool :=
  w.kind == "call:Extend" || w.kind == "call:Extendm" || w.kind == "call:Remove" || w.kind == "call:DeleteExcept"

/-! ## match/match.go (C01, C03) -/

def matcherFns : List String :=
  ["Matcher.Match", "Matcher.Matches", "Matcher.match", "Matcher.mapcatMatch", "Matcher.arraycatMatch",
   "Matcher.matchWithBindingss", "Matcher.getVariable", "Matcher.inequal", "Matcher.checkForBadPropertyVariables",
   "combine", "copyBindingss", "copyMap", "fudge", "Match"]

/-- C03: `Match` hands the recursive matcher a copy of the bindings it was given. -/
theorem match_copies_first :
    stmt "Matcher.Match.return" = ["return m.match(pattern, fact, bindings.Copy())"] := by decide +kernel

/-- C03: `copyBindingss` copies every map (results of different branches never share a map). -/
theorem copyBindingss_copies : stmt "copyBindingss.append" = ["append(acc, bs.Copy())"] := by decide +kernel

/-- C03: backtracking and the property-variable gather work on copies; sub-matches go through
    `Match` (which copies). -/
theorem matcher_branches_copy :
    seq "Matcher.arraycatMatch" = ["matchWithBindingss", "copyBindingss", "copyMap", "delete"] ∧
    seq "Matcher.mapcatMatch" = ["checkForBadPropertyVariables", "copyBindingss", "matchWithBindingss",
                                 "matchWithBindingss", "matchWithBindingss"] ∧
    seq "Matcher.matchWithBindingss" = ["Match"] := by decide +kernel

/-- C03/C12: no write site of the matcher is rooted in the pattern, the message or the matcher
    itself: every write goes to a local, or to the bindings parameter (which is `Match`'s copy). -/
theorem matcher_writes_only_locals_and_bindings :
    (writesOf matcherFns).all (fun w =>
      w.rootKind == "local" || (w.rootKind == "param" && (w.root == "bs" || w.root == "bindings"))) = true := by
  decide +kernel

/-- C01: the three switches of the default matcher are on. -/
theorem matcher_switches :
    const "DefaultMatcher" =
      ["&Matcher{ AllowPropertyVariables: true, CheckForBadPropertyVariables: true, Inequalities: true, }"] := by
  decide +kernel

/-- C01: operator scan order and the five relations of `inequal`. -/
theorem ineq_ops :
    stmt "Matcher.inequal.ops" = ["[]string{\"<=\", \">=\", \"!=\", \">\", \"<\"}"] ∧
    stmt "Matcher.inequal.case \"<\"" = ["a < b"] ∧ stmt "Matcher.inequal.case \"<=\"" = ["a <= b"] ∧
    stmt "Matcher.inequal.case \">\"" = ["a > b"] ∧ stmt "Matcher.inequal.case \">=\"" = ["a >= b"] ∧
    stmt "Matcher.inequal.case \"!=\"" = ["a != b"] := by decide +kernel

/-- C01/C18/C04: the prefixes and suffixes the models hard-code. -/
theorem name_conventions :
    const "Matcher.IsVariable" = ["return strings.HasPrefix(s, \"?\")"] ∧
    const "Matcher.IsOptionalVariable" = ["return strings.HasPrefix(s, \"??\") ; return false"] ∧
    const "Matcher.IsAnonymousVariable" = ["return s == \"?\""] ∧
    const "isPermanent" = ["return strings.HasSuffix(p, \"!\")"] ∧
    const "IsBranchTargetVariable" = ["return false ; return s[0] == '@'"] := by decide +kernel

/-! ## core/step.go, core/actions.go (C04–C08, C12, C18) -/

def engineFns : List String :=
  ["Spec.Step", "Spec.Walk", "Branches.consider", "Branch.try", "Branch.target", "FuncAction.Exec"]

/-- C06/C12: `Step`, `Walk`, `consider`, `try`, `target`, `Exec` have no write site rooted in a
    parameter (state, messages, control, props) or in the receiver (spec, branches, branch, action):
    every write goes to a local. -/
theorem engine_writes_only_locals :
    (writesOf engineFns).all (fun w => w.rootKind == "local" || w.rootKind == "call") = true := by decide +kernel

/-- C06: every mutator call on bindings in `Step`/`Walk` (`Extend`, `Extendm`, …) is on a map that
    is fresh at that point — the receiver is a `Copy()` or was just assigned one. -/
theorem engine_mutators_on_fresh_maps :
    ((writesOf engineFns).filter isMutatorCall).all (fun w => w.fresh) = true := by decide +kernel

/-- C06: the states a step returns are copies or fresh literals over copied bindings. -/
theorem step_returns_copies :
    stmt "Spec.Step.stride.From" = ["st.Copy()"] ∧
    (stmt "Spec.Step.stride.To").all (fun s =>
      s == "st.Copy()" || s == "&State{ NodeName: s.ActionErrorNode, Bs: bs.Copy(), }" ||
      s == "&State{ NodeName: \"error\", Bs: bs, }") = true ∧
    stmt "Spec.Walk.st" = ["stride.To.Copy()"] := by decide +kernel

/-- C06: the allocation and write sites of `Step`, in source order, are the ones the ownership model
    (`Sheens/Own.lean`, `stepH`) goes through: `From = st.Copy()`; the action; `NewBindings()` for nil
    bindings; on an action error `bs.Copy()` and two `Extend`s, then `bs.Copy()` for the error node's
    state; `consider`; `To = st.Copy()`; and for "followed no branch" `bs.Copy().Extendm(…,
    givenState.Bs.Copy())`. -/
theorem step_copy_sites :
    seq "Spec.Step.ownership" =
      ["Copy", "Exec", "NewBindings", "Copy", "Extend", "Extend", "Copy", "consider", "Copy",
       "Extendm", "Copy", "Copy"] := by decide +kernel

/-- C06: … and those of `Walk` (`walkStrideH`, `walkLoopH`): `Step`; for a nil stride `NewStride()` and
    `From = st.Copy()`; on a step error `st.Bs.Copy().Extendm(…, st.Bs.Copy())`; and between
    iterations `st = stride.To.Copy()`. -/
theorem walk_copy_sites :
    seq "Spec.Walk.ownership" = ["Step", "NewStride", "Copy", "Extendm", "Copy", "Copy", "Copy"] := by decide +kernel

/-- C05: the loop bound, the pop and the remainder reports of `Walk`. -/
theorem walk_accounting_sites :
    stmt "Spec.Walk.for" = ["i < c.Limit"] ∧ stmt "Spec.Walk.pendings" = ["pendings[1:]"] ∧
    stmt "Spec.Walk.walked.Remaining" = ["pendings", "nil", "nil", "pendings"] := by decide +kernel

/-- C07: `Walk` applies the default control before it reads the limit. -/
theorem walk_defaults_nil_control :
    stmt "Spec.Walk.first" = ["if c == nil { c = DefaultControl }"] ∧
    const "DefaultControl" = ["&Control{ Limit: 100, }"] := by decide +kernel

/-- C07/C18: the write-back of the permanent bindings is guarded against a nil execution and nil
    bindings. -/
theorem exec_writeback_guarded :
    ((writesOf ["FuncAction.Exec"]).filter (fun w => w.path == "Bs.[]")).map (·.guard) =
      ["Exp_PermanentBindings && exe != nil && exe.Bs != nil"] := by decide +kernel

/-- C04: branches are considered in their listed order; C04/C18: the experiment switches are on and
    the default names are the ones the model uses. -/
theorem engine_constants :
    stmt "Branches.consider.range" = ["b.Branches"] ∧
    const "Exp_BranchTargetVariables" = ["true"] ∧ const "Exp_PermanentBindings" = ["true"] ∧
    const "DefaultBranchType" = ["\"bindings\""] ∧ const "DefaultErrorNodeName" = ["\"error\""] := by decide +kernel

/-- C08: `try` runs the matcher, then the guard, then computes the target — and never adds a
    guard's emitted events to anything. -/
theorem try_adds_no_guard_events : seq "Branch.try" = ["Match", "Exec", "target"] := by decide +kernel

/-! ## interpreters/ecmascript/ecmascript.go (C08, C10, C11) -/

/-- C08/C11: the value is exported and `cancel()` called right after `RunProgram`, and both run-time
    error exits return a nil execution (so the emission buffer is dropped); an interrupt is reported
    as `Interrupted`. -/
theorem es_error_exits_nil_exe :
    stmt "Interpreter.Exec.afterRun" =
      ["var x interface{} ;; if err == nil { x, err = export(v) } ;; cancel() ;; if err != nil { if _, is := err.(*goja.InterruptedError); is { return nil, Interrupted } return nil, err }"] := by
  decide +kernel

/-- C07/C11: the program's value is converted to Go data under a `recover` (a getter of the returned
    object is script code: it can throw or be interrupted), before the watcher is released. -/
theorem es_export_recovers :
    stmt "ecmascript.export" =
      ["{ defer func() { if r := recover(); r != nil { if e, is := r.(error); is { err = e } else { err = fmt.Errorf(\"%s\", r) } } }() return v.Export(), nil }"] := by
  decide +kernel

/-- C08: every return of `Exec` that follows the start of the run and carries an error hands back a
    nil execution — there is no error exit through which the emission buffer could leave. -/
theorem es_every_error_exit_nil_exe :
    (stmt "Interpreter.Exec.errorReturnsAfterRun").all (· == "nil") = true ∧
    (stmt "Interpreter.Exec.errorReturnsAfterRun").length ≥ 5 := by decide +kernel

/-- C11: the watcher goroutine waits for the derived context and interrupts the runtime. -/
theorem es_watcher :
    stmt "Interpreter.Exec.watcher" = ["<-ictx.Done() ;; o.Interrupt(InterruptedMessage)"] ∧
    const "InterruptedMessage" = ["\"RuntimeError: timeout\""] := by decide +kernel

/-- C10: one runtime per execution: `goja.New()` is called once inside `Exec`, bound to a local that
    is never stored, and neither the package nor the interpreter struct holds a runtime or a pool. -/
theorem runtime_is_per_exec :
    stmt "Interpreter.Exec.gojaNew" = ["calls=1 local=true stored=0"] ∧
    stmt "ecmascript.runtimeHolders" = ["0"] := by decide +kernel

/-- C10: the script sees a deep copy of the caller's bindings. -/
theorem bindings_deep_copied :
    stmt "Interpreter.Exec.deepCopy" = ["deepCopy(bs)"] ∧
    stmt "Interpreter.Exec.envBindings" = ["bsCopy"] := by decide +kernel

/-! ## core/specter.go (C12) -/

/-- C12: the updatable spec is read and written with single atomic pointer operations. -/
theorem specter_atomic :
    seq "UpdatableSpec.Spec" = ["LoadPointer"] ∧ seq "UpdatableSpec.SetSpec" = ["StorePointer"] := by decide +kernel

/-! ## cmd/mcrew/service.go (C16), both timer services (C17), sio/crew.go (C14) -/

/-- C16: `Process`, `AddMachine` and `RemMachine` each take the crew lock once, hold it to the end
    (deferred unlock) and write to storage inside it … -/
theorem mcrew_write_under_lock :
    seq "Service.AddMachine" = ["Lock", "defer Unlock", "WriteState"] ∧
    seq "Service.RemMachine" = ["Lock", "defer Unlock", "WriteState"] ∧
    seq "Service.Process" = ["Route", "Lock", "defer Unlock", "GetSpec", "Walk", "WriteState", "go Process"] := by decide +kernel

/-- C16: … and change the in-memory crew only after the write. -/
theorem mcrew_write_before_memory :
    seq "Service.AddMachine.order" = ["write", "mem:c.Machines[id]"] ∧
    seq "Service.RemMachine.order" = ["write", "mem:delete"] ∧
    seq "Service.Process.order" = ["write", "mem:c.Machines[mid].State"] := by decide +kernel

/-- C14: each emitted message spawns one `Process` (mcrew); the sio crew appends emitted messages to
    the end of the queue and pops from the front; ordinary routing skips the two service machines. -/
theorem routing_sites :
    stmt "Crew.ProcessMsg.pending" =
      ["make([]interface{}, 0, 32)", "append(pending, msg)", "pending[1:]", "append(pending, msg)"] ∧
    stmt "Crew.allMachines.case" = ["TimersMachine", "CaptainMachine"] := by decide +kernel

/-- C17: a firing timer decides under the lock, by entry identity, whether it still stands, and
    frees its id before emitting (both implementations); sio's `add` on a pending id cancels it and
    goes on to create the new timer. -/
theorem timers_fire_by_identity :
    (stmt "mcrew.Timers.fire.guard").contains "!have || current != te" = true ∧
    stmt "sio.TimerEntry.fire.guard" = ["!have || current != te"] ∧
    seq "mcrew.Timers.Add" = ["Lock", "defer Unlock", "Rem", "NewTimer", "Lock", "Unlock", "delete", "Unlock", "emit"] ∧
    seq "sio.TimerEntry.run" = ["Lock", "Unlock", "delete", "Unlock", "Emitter", "Lock", "changed", "Unlock"] ∧
    seq "sio.Timers.add" = ["cancel", "changed", "go run"] := by decide +kernel

/-! ## hidden state: package-level variables and unexported struct fields (C03, C06, C10, C12) -/

/-- C03: the matcher's package holds no state besides the default matcher's three switches, and no
    type of the package has an unexported field: nothing can be remembered between two calls. -/
theorem match_no_hidden_state :
    seq "pkgvars:match" = ["DefaultMatcher"] ∧ seq "hiddenfields:match" = [] := by decide +kernel

/-- C06/C12: the package-level variables of `core` are the constants, defaults and generated enum
    tables the models know, and the only unexported fields are the native action's canned results,
    the spec's `compiled` flag, the embedded event records and the updatable spec's pointer. -/
theorem core_no_hidden_state :
    seq "pkgvars:core" =
      ["DefaultBranchType", "DefaultControl", "DefaultErrorNodeName", "DefaultInterpreters", "DefaultPatternParser",
       "EmittedMessagesInitialCap", "Exp_BranchTargetVariables", "Exp_PermanentBindings", "InterpreterNotFound",
       "TooManyBindingss", "TracesInitialCap", "_StopReasonNameToValue", "_StopReasonValueToName",
       "_StopReason_index", "alphabet", "defaultErrorNode"] ∧
    seq "hiddenfields:core" =
      ["Execution.:*Events", "FuncAction.binds:[]Bindings", "FuncAction.emits:[]interface{}", "Spec.compiled:bool",
       "Stride.:*Events", "UpdatableSpec.spec:unsafe.Pointer"] := by decide +kernel

/-- C10: the ECMAScript interpreter's package holds three constants and its types no unexported
    field (no runtime, pool or cache survives an execution). -/
theorem es_no_hidden_state :
    seq "pkgvars:interpreters/ecmascript" = ["IgnoreExit", "Interrupted", "InterruptedMessage"] ∧
    seq "hiddenfields:interpreters/ecmascript" = [] := by decide +kernel

/-! ## decision skeletons of functions modelled by hand (C13, C14, C15, C19, C20) -/

/-- C19: the decision skeleton of `Session.Run` — every `if`, `range` and `switch` in source order, function
    literals included — is the one the model `Expect.lean` was written from: diagnostics cleared and
    outstanding outputs counted per step, outputs with a recorded match skipped, a match is `0 < len(bss)`,
    a guard rejects with nil bindings, an inverted match fails, the step ends at `need == 0`. -/
theorem expect_run_skeleton :
    seq "skeleton:expect.Session.Run" =
      ["if dir != \"\"", "if err != nil", "if err != nil", "if err != nil", "if err != nil", "if err != nil",
       "if err != nil", "if err != nil", "if err == io.EOF", "if err != nil", "if s.ShowStderr",
       "range s.IOs", "if iop.Timeout == 0", "if 0 < iop.Timeout", "range iop.OutputSet",
       "range iop.OutputSet", "if !o.Inverted", "if err != nil", "if s.ShowStdout", "if err != nil",
       "range iop.OutputSet", "if output.Bindingss != nil", "if s.ParsePatterns", "if err != nil",
       "if err != nil", "if err != nil", "if 0 < len(bss)", "if 1 < len(bss)",
       "if output.GuardSource != nil", "if err != nil", "if output.Guard != nil", "if err != nil",
       "if exe.Bs == nil", "if 0 < len(bss)", "if output.Inverted", "if need == 0", "if timer != nil",
       "if err == nil", "range iop.Inputs", "if 0 < i", "if s.ShowStdin", "if err != nil", "if err != nil",
       "if err == nil", "switch err", "case happy", "if want <= happies", "if happies < want",
       "if err != nil", "if err != nil"] := by decide +kernel

/-- C15: the decision skeleton of `GetChanged` (net changes; deletion wins; a change identical to the one
    reported before is suppressed) … -/
theorem crew_changes_skeleton :
    seq "skeleton:sio.Crew.GetChanged" =
      ["range c.changed", "if mid == CaptainMachine", "if change.Deleted", "if !have",
       "if change.State != nil", "if change.SpecSrc != nil", "range changed", "if ch.Deleted",
       "if err != nil", "if have", "if current == previous"] := by decide +kernel

/-- C15: … of `SetMachine` … -/
theorem crew_setmachine_skeleton :
    seq "skeleton:sio.Crew.SetMachine" =
      ["if !have", "if state != nil", "if src != nil", "if state != nil", "switch mid", "case TimersMachine",
       "if m.Specter == nil", "if err != nil", "if state == nil", "if have", "if err != nil",
       "if err != nil", "case CaptainMachine", "if err != nil", "if src != nil", "if err != nil"] := by decide +kernel

/-- C14/C15: … and of `ProcessMsg`. -/
theorem crew_processmsg_skeleton :
    seq "skeleton:sio.Crew.ProcessMsg" =
      ["for 0 < len(pending)", "if is", "if err != nil", "range walkeds", "if is", "if has",
       "if 0 < len(emitted)", "if err != nil"] := by decide +kernel

/-- C13/C07: the decision skeleton of `Compile` (boot/toob sources, error node, null nodes, action sources,
    the three branching types, null branches, guards) … -/
theorem compile_skeleton :
    seq "skeleton:core.Spec.Compile" =
      ["if err != nil", "if spec.BootSource != nil && (force || spec.Boot == nil)", "if err != nil",
       "if spec.ToobSource != nil && (force || spec.Toob == nil)", "if err != nil",
       "if spec.ErrorNode == \"\"", "if spec.Nodes == nil", "if !have && !spec.NoAutoErrorNode",
       "range spec.Nodes", "if n == nil", "if n.ActionSource != nil && (force || n.Action == nil)",
       "if err != nil", "if is", "if n.Branches == nil", "switch n.Branches.Type", "case \"\"",
       "case \"message\"", "case \"bindings\"", "range n.Branches.Branches", "if b == nil", "if err != nil",
       "if err != nil", "if b.GuardSource != nil && (force || b.Guard == nil)", "if err != nil"] := by decide +kernel

/-- C13: … and of `ParsePatterns`. -/
theorem parsepatterns_skeleton :
    seq "skeleton:core.Spec.ParsePatterns" =
      ["if spec.PatternParser == nil", "if spec.Nodes == nil", "range spec.Nodes",
       "if n == nil || n.Branches == nil", "range n.Branches.Branches", "if b == nil", "if err != nil",
       "if err != nil"] := by decide +kernel

/-- C20: the decision skeleton of `Analyze`. -/
theorem analyze_skeleton :
    seq "skeleton:tools.Analyze" =
      ["range s.Nodes", "if n.Action != nil || n.ActionSource != nil", "if n.ActionSource != nil",
       "if n.Branches == nil || len(n.Branches.Branches) == 0", "if n.Branches != nil",
       "range n.Branches.Branches", "if b.Target == \"\"", "if core.IsBranchTargetVariable(b.Target)",
       "if !have", "if b.Guard != nil || b.GuardSource != nil", "if b.GuardSource != nil"] := by decide +kernel

end FactsOK
