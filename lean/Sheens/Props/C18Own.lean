import Sheens.Proofs.OwnHeap

/-!
# Property C18 on the ownership layer — "whatever the code deleted, overwrote or returned instead"

The pure model's `permanent_preserved` quantifies over all action *functions*; a function cannot
modify its argument.  Native Go code can: `match.Bindings`' own helpers (`Remove`, `Extend`,
`DeleteExcept`) work on the very map they are given.  On the heap model (`Sheens/Own.lean`) an action
is an arbitrary heap transformer — **no contract at all** is assumed here: it may rewrite the map
it was given, any other map, and hand back whichever address it likes.  `FuncAction.Exec`
(`execWrapH`) reads the permanent bindings *before* the action runs and writes them into the map
that comes back, so they are there with their previous values.
-/

namespace Sheens.C18

open Own

/-- After any action or guard that completes and hands back a map — whatever it did to the heap —
    every binding of the given map whose name ends in '!' is in that map with its previous value. -/
theorem permanent_preserved_inplace (a : Act) (h : Heap) (x : Addr) (bs : Bs) (r : Addr) (em : List V)
    (k : String) (v : V)
    (hx : h.get x = some bs) (hnd : NoDupKeys bs)
    (hr : (execWrapH a (some x) h).2.exe = some (some r, em))
    (hk : isPermanent k = true) (hv : lookup k bs = some v) :
    ∃ b', (execWrapH a (some x) h).1.get r = some b' ∧ lookup k b' = some v := by
  rw [Sheens.C06.execWrapH_some hr, Sheens.C06.get_restoreH, Sheens.C06.content_some, hx]
  exact ⟨_, rfl, lookup_restore_permanent hnd hk hv⟩

/-- non-vacuity: an action that empties the map it was given, in place, and hands it back -/
def wipeAct : Act :=
  { run := fun h arg =>
      match arg with
      | some x => (h.set x [], { exe := some (some x, []), err := none })
      | none => (h, { exe := none, err := none })
    pure := fun _ => { exe := some (some [], []), err := none } }

example :
    let h : Heap := { cells := [(0, [("keep!", .num 1), ("n", .num 2)])], next := 1 }
    ((execWrapH wipeAct (some 0) h).1.get 0) = some [("keep!", .num 1)] := by rfl

end Sheens.C18

#print axioms Sheens.C18.permanent_preserved_inplace
