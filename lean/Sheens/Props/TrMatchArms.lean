import Sheens.Props.TrMatch
import Sheens.Props.TrIneq
open Go Gen.GoAst

/-!
# Tie C, proved part: the non-recursive arms of the translated `Matcher.match`

On the declaration of `match` that `go/go2lean` regenerated from `match/match.go`: scalar patterns
(`tr_match_scalar`), constant strings (`tr_match_const`), the anonymous variable (`tr_match_anon`)
and a variable that is not bound yet (`tr_match_fresh_var`: the message value is stored under it in
the bindings map that was passed, which is the one result) — for every message value, heap and
enough fuel.  The inequality arm is `TrIneq.tr_inequal`.  `tr_match_bound`: a bound variable whose
value looks like a variable is compared as a constant, any other bound value is used as the pattern
(`match` calls itself on it with the same message value and bindings) — the clause of the containment
relation `Sat` for variables.  `tr_match_map`: a message value that is not a map does not match a map
pattern, the empty map pattern matches any map, otherwise the answer is `mapcatMatch`'s on the one
bindings map.  `tr_mapcatMatch_const`: `mapcatMatch` on a pattern whose keys are all constants, relative
to what `matchWithBindingss` does (`mcSpec`).  `tr_match_array_head`: of the array arm, the variable
check and the test that the message is an array.  The rest of the array arm, the property-variable case
of `mapcatMatch` and `arraycatMatch` are tied by execution only.

All arms start from `match_prologue`: the statements before the type switch are run once, and the
switch is left with its case list folded (`matchArms`), so that a proof only ever unfolds — by
evaluation, `conv in armOf _ _ _ => whnf` — the arm it is about.
-/

namespace Sheens.TrMatch

/-- the cases of the type switch of `match` -/
def matchArms : List (List String × List GS) :=
  match matchProg_Mmatch.body with
  | [_, _, _, _, _, _, GS.switchT _ _ cs _] => cs
  | _ => []

/-- … and its default -/
def matchDflt : List GS :=
  match matchProg_Mmatch.body with
  | [_, _, _, _, _, _, GS.switchT _ _ _ (some d)] => d
  | _ => []

/-- the variables of `match` in an arm of its type switch (`p`, `f`: pattern and message value after `fudge`) -/
def matchEnv (m p f : GV) (ab : Nat) : Env :=
  [("vv", p), ("bs", .ref ab), ("f", f), ("p", p), ("m", m), ("pattern", p), ("fact", f), ("bindings", .ref ab)]

/-- `match` up to its type switch: both arguments go through `fudge`, the bindings are not nil, and
    the arm for the dynamic type of the pattern runs -/
theorem match_prologue (n : Nat) (g : Env) (H : Heap) (m p f : GV) (ab : Nat) :
    callFn (n + 21) matchProg g ".match" m [p, f, .ref ab] H =
      retOf (switchEnd 7 (execBlock (n + 12) matchProg g (matchEnv m (fudgeG p) (fudgeG f) ab) H
        (armOf matchArms (some matchDflt) (typeOf H (fudgeG p))))) := by
  refine callFn_run matchProg_names matchProg_Mmatch ?_
  -- (without the equation of `armOf` the case list stays as it stands in the declaration: `matchArms`, by evaluation)
  simp [matchProg_Mmatch, matchEnv, -armOf_cons]
  rfl

/-- the lookups in `matchEnv`, so that it stays folded: a lookup walks through the variables an arm has
    added, and then takes one step -/
theorem matchEnv_get (m p f : GV) (ab : Nat) :
    envGet "vv" (matchEnv m p f ab) = some p ∧ envGet "bs" (matchEnv m p f ab) = some (.ref ab) ∧
    envGet "f" (matchEnv m p f ab) = some f ∧ envGet "p" (matchEnv m p f ab) = some p ∧
    envGet "m" (matchEnv m p f ab) = some m ∧ envGet "pattern" (matchEnv m p f ab) = some p ∧
    envGet "fact" (matchEnv m p f ab) = some f ∧ envGet "bindings" (matchEnv m p f ab) = some (.ref ab) ∧
    (matchEnv m p f ab).length = 8 := by
  simp [matchEnv]

attribute [local simp] matchEnv_get

/-- patterns that are scalars other than strings -/
def ScalarPat : GV → Prop
  | .nil | .bool _ | .f64 _ | .int _ | .numT _ _ => True
  | _ => False

/-- do two scalars match: same kind (after `fudge`) and equal -/
def scalarMatchG (p f : GV) : Bool :=
  match fudgeG p, fudgeG f with
  | .nil, .nil => true
  | .bool a, .bool b => a == b
  | .f64 a, .f64 b => a == b
  | _, _ => false

theorem ScalarPat.fudge {p : GV} (hp : ScalarPat p) :
    fudgeG p = .nil ∨ (∃ b, fudgeG p = .bool b) ∨ ∃ q, fudgeG p = .f64 q := by
  cases p <;> simp [ScalarPat, fudgeG] at hp ⊢

theorem tr_match_scalar (n : Nat) (g : Env) (H : Heap) (m p f : GV) (ab : Nat) (hp : ScalarPat p) :
    callFn (n + 60) matchProg g ".match" m [p, f, .ref ab] H =
      .ok ([if scalarMatchG p f then .slice [.ref ab] else .nil, .nil], H) := by
  rw [match_prologue]
  unfold scalarMatchG
  generalize fudgeG f = ff
  -- in each of the three arms: the message value has the type of the pattern, or it has not
  rcases hp.fudge with h | ⟨b, h⟩ | ⟨q, h⟩ <;> rw [h] <;> conv in armOf _ _ _ => whnf
  · by_cases hty : typeOf H ff = GT.nil
    · obtain rfl := typeOf_inv hty
      simp
    · simp [hty]
      cases ff <;> simp at hty ⊢
  · by_cases hty : typeOf H ff = GT.bool
    · obtain ⟨c, rfl⟩ := typeOf_inv hty
      cases hbc : b == c <;> simp [hbc]
    · simp [hty]
      cases ff <;> simp at hty ⊢
  · by_cases hty : typeOf H ff = GT.f64
    · obtain ⟨r, rfl⟩ := typeOf_inv hty
      cases hqr : q == r <;> simp [hqr]
    · simp [hty]
      cases ff <;> simp at hty ⊢

def isStrG (x : GV) (s : String) : Bool :=
  match x with
  | .str t => t == s
  | _ => false

/-- a string pattern that is a constant: the message value must be that string -/
theorem tr_match_const (n : Nat) (g : Env) (H : Heap) (m f : GV) (s : String) (ab : Nat) (hs : isVar s = false) :
    callFn (n + 60) matchProg g ".match" m [.str s, f, .ref ab] H =
      .ok ([if isStrG (fudgeG f) s then .slice [.ref ab] else .nil, .nil], H) := by
  rw [match_prologue]
  generalize fudgeG f = ff
  conv in armOf _ _ _ => whnf
  by_cases hty : typeOf H ff = GT.str
  · obtain ⟨t, rfl⟩ := typeOf_inv hty
    by_cases hst : s = t
    · subst hst; simp [hs, isStrG]
    · simp [hs, hst, Ne.symm hst, isStrG]
  · simp [hs, hty]
    cases ff <;> simp [isStrG] at hty ⊢

/-- the anonymous variable matches anything and binds nothing -/
theorem tr_match_anon (n : Nat) (g : Env) (H : Heap) (m f : GV) (ab : Nat) :
    callFn (n + 60) matchProg g ".match" m [.str "?", f, .ref ab] H = .ok ([.slice [.ref ab], .nil], H) := by
  rw [match_prologue]
  conv in armOf _ _ _ => whnf
  simp [isAnon, show isVar "?" = true by decide]


/-- a variable that is not bound yet (and is not the anonymous one): the message value is bound to
    it, in the bindings map that was passed, and that map is the one result -/
theorem tr_match_fresh_var (n : Nat) (g : Env) (H : Heap) (f : GV) (v : String) (am ab : Nat) (mo bo : MapObj)
    (hm : heapGet H am = some mo) (hI : mlookup (.str "Inequalities") mo.kvs = some (.bool true))
    (hb : heapGet H ab = some bo) (hv : isVar v = true) (hanon : isAnon v = false)
    (hfree : mlookup (.str v) bo.kvs = none) :
    callFn (n + 100) matchProg g ".match" (.ref am) [.str v, f, .ref ab] H =
      .ok ([.slice [.ref ab], .nil], heapSet H ab { bo with kvs := minsert (.str v) (fudgeG f) bo.kvs }) := by
  have hineq := fun j => TrIneq.tr_inequal j g H am ab mo bo (fudgeG f) v hm hI hb hv
  simp only [TrIneq.inequalG, hfree] at hineq
  rw [match_prologue]
  conv in armOf _ _ _ => whnf
  simp [hv, hanon, hineq, TrIneq.ineqResult, hb, hfree]


/-- a variable that is bound, where the inequality test does not apply: a bound value that looks like
    a variable is compared as a constant; any other bound value is used as the pattern (`match` calls
    itself on it, with the same message value and bindings) -/
theorem tr_match_bound (n : Nat) (g : Env) (H : Heap) (f x : GV) (v : String) (am ab : Nat) (mo bo : MapObj)
    (hm : heapGet H am = some mo) (hI : mlookup (.str "Inequalities") mo.kvs = some (.bool true))
    (hb : heapGet H ab = some bo) (hv : isVar v = true) (hanon : isAnon v = false)
    (hbound : mlookup (.str v) bo.kvs = some x)
    (hnot : Sheens.TrIneq.inequalG (fudgeG f) bo.kvs v = .notUsing)
    (RHS : R (List GV × Heap))
    (hR : (match x with
       | .str s =>
         if isVar s then (.ok ([if isStrG (fudgeG f) s then .slice [.ref ab] else .nil, .nil], H) : R (List GV × Heap))
         else callFn (n + 77) matchProg g ".match" (.ref am) [x, fudgeG f, .ref ab] H
       | _ => callFn (n + 77) matchProg g ".match" (.ref am) [x, fudgeG f, .ref ab] H) = RHS) :
    callFn (n + 100) matchProg g ".match" (.ref am) [.str v, f, .ref ab] H = RHS := by
  have hineq := fun j => TrIneq.tr_inequal j g H am ab mo bo (fudgeG f) v hm hI hb hv
  simp only [hnot] at hineq
  rw [match_prologue]
  conv in armOf _ _ _ => whnf
  generalize fudgeG f = ff at hR hineq ⊢
  -- up to the type of the bound value
  simp [hv, hanon, hineq, TrIneq.ineqResult, hb, hbound]
  by_cases hx : typeOf H x = GT.str
  · obtain ⟨s, rfl⟩ := typeOf_inv hx
    simp
    cases hs : isVar s
    · simp only [hs, Bool.false_eq_true, if_false] at hR
      rw [← hR]
      simp
      generalize callFn _ _ _ ".match" _ _ _ = r
      cases r <;> rfl
    · simp only [hs, if_true] at hR
      rw [← hR]
      simp
      by_cases hty : typeOf H ff = GT.str
      · obtain ⟨t, rfl⟩ := typeOf_inv hty
        by_cases hst : t = s
        · subst hst; simp [isStrG]
        · simp [isStrG, hst]
      · simp [hty]
        cases ff <;> simp [isStrG] at hty ⊢
  · have hR' : RHS = callFn (n + 77) matchProg g ".match" (.ref am) [x, ff, .ref ab] H := by
      rw [← hR]; cases x <;> simp at hx ⊢
    rw [hR']
    simp [hx]
    generalize callFn _ _ _ ".match" _ _ _ = r
    cases r <;> rfl


/-- a map pattern: a message value that is not a map does not match; the empty map pattern matches
    any map; otherwise the answer is `mapcatMatch`'s on the one bindings map -/
theorem tr_match_map (n : Nat) (g : Env) (H : Heap) (m f : GV) (pa ab : Nat) (po : MapObj)
    (hp : heapGet H pa = some po) (hpt : po.ty = "map[string]interface{}")
    (RHS : R (List GV × Heap))
    (hR : (match f with
       | .ref fa =>
         (match heapGet H fa with
          | some fo =>
            if fo.ty = "map[string]interface{}" then
              (if po.kvs.length = 0 then (.ok ([.slice [.ref ab], .nil], H) : R (List GV × Heap))
               else callFn (n + 39) matchProg g ".mapcatMatch" m [.slice [.ref ab], .ref pa, .ref fa] H)
            else .ok ([.nil, .nil], H)
          | none => .ok ([.nil, .nil], H))
       | _ => .ok ([.nil, .nil], H)) = RHS) :
    callFn (n + 60) matchProg g ".match" m [.ref pa, f, .ref ab] H = RHS := by
  have hpty : typeOf H (.ref pa) = GT.named "map[string]interface{}" := by simp [typeOf, hp, hpt]
  rw [match_prologue, fudgeG_ref, hpty]
  conv in armOf _ _ _ => whnf
  by_cases hty : typeOf H (fudgeG f) = GT.named "map[string]interface{}"
  · obtain ⟨fa, fo, hf, hfo, hft⟩ := typeOf_inv hty
    obtain rfl : f = .ref fa := by cases f <;> simp_all [fudgeG]
    rw [fudgeG_ref] at hty
    simp only [hfo, hft, if_true] at hR
    rw [← hR]
    by_cases hlen : po.kvs.length = 0
    · simp [hpty, hty, hp, hlen]
    · have hl0 : ¬ ((0 : Int) = (po.kvs.length : Int)) := by omega
      simp [hpty, hty, hp, hlen, hl0]
      generalize callFn _ _ _ ".mapcatMatch" _ _ _ = r
      cases r <;> rfl
  · have hR' : RHS = .ok ([.nil, .nil], H) := by
      rw [← hR]
      cases f with
      | ref fa => cases hh : heapGet H fa <;> simp_all [typeOf]
      | _ => rfl
    rw [hR']
    simp [hpty, hty]



/-! ## `mapcatMatch` on constant keys (relative to `matchWithBindingss`) -/

def mcBody : List GS :=
  match matchProg_MmapcatMatch.body with
  | [_, GS.range _ _ _ _ body, _] => body
  | _ => []

/-- `mapcatMatch` on a pattern whose keys are all constants, given what `matchWithBindingss` does
    (`W`): the pattern's entries in iteration order; a key the message lacks ends the match with no
    result unless its value is an optional variable (then it is skipped); the binding sets are
    threaded through `matchWithBindingss`, an empty list of them ends the match with no result, an
    error comes back as it is -/
def mcSpec (W : GV → GV → GV → Heap → R (List GV × Heap)) (fkvs : List (GV × GV)) :
    List (GV × GV) → GV → Heap → R (Flow × GV × Heap)
  | [], bss, H => .ok (.next, bss, H)
  | (k, v) :: rest, bss, H =>
    match mlookup k fkvs with
    | none => if isOptVarG v then mcSpec W fkvs rest bss H else .ok (.ret [.nil, .nil], bss, H)
    | some fv =>
      match W bss v fv H with
      | .error e => .error e
      | .ok ([acc, .nil], H') =>
        (match acc with
         | .nil => .ok (.ret [.nil, .nil], bss, H')
         | .slice [] => .ok (.ret [.nil, .nil], bss, H')
         | .slice (x :: xs) => mcSpec W fkvs rest (.slice (x :: xs)) H'
         | _ => .error (.stuck "len"))
      | .ok ([_, e], H') => .ok (.ret [.nil, e], bss, H')
      | .ok _ => .error (.stuck "assignment count")

theorem mcSpec_err {W : GV → GV → GV → Heap → R (List GV × Heap)} {fkvs rest : List (GV × GV)} {k v fv bss acc e : GV}
    {H H' : Heap} (hl : mlookup k fkvs = some fv) (hw : W bss v fv H = .ok ([acc, e], H')) (he : e ≠ .nil) :
    mcSpec W fkvs ((k, v) :: rest) bss H = .ok (.ret [.nil, e], bss, H') := by
  cases e <;> simp_all [mcSpec]

/-- the loop of `mapcatMatch` over constant keys: the state is the binding sets and the heap, on which
    the message map stays what it is -/
theorem mc_loop (g : Env) (m pat : GV) (fa : Nat) (fo : MapObj) (W : GV → GV → GV → Heap → R (List GV × Heap)) (K : Nat)
    (hW : ∀ k, K ≤ k → ∀ bss v fv H, callFn k matchProg g ".matchWithBindingss" m [bss, v, fv] H = W bss v fv H)
    (hfa : ∀ bss v fv H r H', W bss v fv H = .ok (r, H') → heapGet H fa = some fo → heapGet H' fa = some fo)
    (hWs : ∀ bss v fv H acc e H', W bss v fv H = .ok ([acc, e], H') → IsSlice acc) :
    ∀ (items : List (GV × GV)) (s : GV × Heap) (fu : Nat),
    ((∀ kv ∈ items, ∃ s, kv.1 = .str s ∧ isVar s = false) ∧ heapGet s.2 fa = some fo) → items.length + (K + 39) + 1 ≤ fu →
    loopR fu matchProg g [("m", m), ("bss", s.1), ("pattern", pat), ("fact", .ref fa)] s.2 "" "k" "v" items mcBody =
      (match mcSpec W fo.kvs items s.1 s.2 with
       | .error e => .error e
       | .ok (fl, bss', H') => .ok (fl, [("m", m), ("bss", bss'), ("pattern", pat), ("fact", .ref fa)], H')) := by
  refine loopR_eq _ _ _ _ _ ?_ ?_
  · intro _ _; rfl
  · rintro ⟨ik, v⟩ items ⟨bss, H⟩ j ⟨hk, (hH : heapGet H fa = some fo)⟩ r hr
    obtain ⟨s, rfl, hs⟩ : ∃ s, ik = .str s ∧ isVar s = false := hk _ (List.mem_cons_self ..)
    have hk' : ∀ kv ∈ items, ∃ s, kv.1 = .str s ∧ isVar s = false := fun kv h => hk kv (List.mem_cons_of_mem _ h)
    rw [← Nat.add_assoc] at hr
    -- up to what the lookup `fact[k]` gives
    simp [mcBody, matchProg_MmapcatMatch, hs, hH] at hr
    cases hl : mlookup (.str s) fo.kvs with
    | none =>
      simp [hl] at hr
      cases hopt : isOptVarG v <;> simp [hopt] at hr <;> subst hr
      · simp [hl, hopt, mcSpec]
      · change ∃ s', _
        exact ⟨(bss, H), ⟨hk', hH⟩, rfl, rfl, by simp only [mcSpec, hl, hopt, if_true]⟩
    | some fv =>
      -- up to what `matchWithBindingss` returns
      simp [hl, hW (j + K + 30) (by omega) bss v fv H] at hr
      cases hw : W bss v fv H with
      | error e => simp [hw] at hr; subst hr; simp [hl, hw, mcSpec]
      | ok res =>
        obtain ⟨vs, H'⟩ := res
        have hH' : heapGet H' fa = some fo := hfa bss v fv H vs H' hw hH
        match vs with
        | [] | [_] | _ :: _ :: _ :: _ => simp [hw] at hr; subst hr; simp [hl, hw, mcSpec]
        | [acc, e] =>
          by_cases he : e = .nil
          · subst he
            -- up to `len(acc)`
            simp [hw] at hr
            rcases hWs bss v fv H _ _ H' hw with rfl | ⟨xs, rfl⟩
            · simp at hr; subst hr; simp [hl, hw, mcSpec]
            · cases xs with
              | nil => simp at hr; subst hr; simp [hl, hw, mcSpec]
              | cons x xs =>
                have hne : ¬ ((0 : Int) = (xs.length : Int) + 1) := by omega
                simp [hne] at hr
                subst hr
                change ∃ s', _
                exact ⟨(.slice (x :: xs), H'), ⟨hk', hH'⟩, rfl, rfl, by simp only [mcSpec, hl, hw]⟩
          · simp [hw, ↓goEq_nil_left he] at hr; subst hr; simp [mcSpec_err hl hw he]


theorem firstVarKey_const (kvs : List (GV × GV)) (hk : ∀ kv ∈ kvs, ∃ s, kv.1 = .str s ∧ isVar s = false) :
    firstVarKey kvs = none := by
  induction kvs with
  | nil => rfl
  | cons kv rest ih =>
    obtain ⟨k, v⟩ := kv
    obtain ⟨s, rfl, hs⟩ := hk (k, v) (by simp)
    rw [firstVarKey_nonvar v rest hs]
    exact ih (fun kv h => hk kv (by simp [h]))

/-- the translated `mapcatMatch` on a pattern map whose keys are all constants, relative to what
    `matchWithBindingss` does -/
theorem tr_mapcatMatch_const (n K : Nat) (g : Env) (H : Heap) (am pa fa : Nat) (mo po fo : MapObj) (bss : GV)
    (W : GV → GV → GV → Heap → R (List GV × Heap))
    (hm : heapGet H am = some mo) (hC : mlookup (.str "CheckForBadPropertyVariables") mo.kvs = some (.bool true))
    (hp : heapGet H pa = some po) (hf : heapGet H fa = some fo)
    (hk : ∀ kv ∈ po.kvs, ∃ s, kv.1 = .str s ∧ isVar s = false)
    (hW : ∀ k, K ≤ k → ∀ bss v fv H, callFn k matchProg g ".matchWithBindingss" (.ref am) [bss, v, fv] H = W bss v fv H)
    (hfa : ∀ bss v fv H r H', W bss v fv H = .ok (r, H') → heapGet H fa = some fo → heapGet H' fa = some fo)
    (hWs : ∀ bss v fv H acc e H', W bss v fv H = .ok ([acc, e], H') → IsSlice acc) :
    callFn (n + K + po.kvs.length + 60) matchProg g ".mapcatMatch" (.ref am) [bss, .ref pa, .ref fa] H =
      (match mcSpec W fo.kvs po.kvs bss H with
       | .error e => .error e
       | .ok (.next, bss', H') => .ok ([bss', .nil], H')
       | .ok (.ret vs, _, H') => .ok (vs, H')
       | .ok _ => .error (.stuck "break/continue left a function")) := by
  have hcfb := tr_checkForBadPropertyVariables (n + K + 14) g H am pa mo po hm hC hp
    (fun kv h => (hk kv h).imp fun _ h => h.1)
  rw [show n + K + 14 + po.kvs.length + 40 = n + K + po.kvs.length + 54 by omega] at hcfb
  rw [show cfbResult po.kvs = .nil by unfold cfbResult; rw [firstVarKey_const po.kvs hk]; split <;> rfl] at hcfb
  refine callFn_run matchProg_names matchProg_MmapcatMatch ?_
  simp [matchProg_MmapcatMatch, hcfb, rangeItems, hp]
  erw [mc_loop g _ _ fa fo W K hW hfa hWs po.kvs (bss, H) _ ⟨hk, hf⟩ (by omega)]
  cases mcSpec W fo.kvs po.kvs bss H with
  | error e => simp
  | ok r => obtain ⟨fl, bss', H'⟩ := r; cases fl <;> simp [retOf]


/-- an array pattern: the variable check comes first (its error is the answer whatever the message
    is), and a message value that is not an array (a scalar or a map) does not match -/
theorem tr_match_array_head (n : Nat) (g : Env) (H : Heap) (m f : GV) (ps : List GV) (ab : Nat)
    (hf : ∀ xs, f ≠ .slice xs) :
    callFn (n + ps.length + 120) matchProg g ".match" m [.slice ps, f, .ref ab] H =
      (match getVarG ps "" [] with
       | .error e => .ok ([.nil, .err e], H)
       | .ok _ => .ok ([.nil, .nil], H)) := by
  have hgv := tr_getVariable (n + 57) g m ps H
  rw [show n + 57 + ps.length + 50 = n + ps.length + 107 by omega] at hgv
  have hff : ¬ typeOf H (fudgeG f) = GT.slice := by
    intro h
    obtain ⟨xs, hxs⟩ := typeOf_inv h
    cases f <;> simp [fudgeG] at hxs
    exact hf _ (by rw [hxs])
  rw [match_prologue]
  conv in armOf _ _ _ => whnf
  cases hr : getVarG ps "" [] with
  | error e => rw [hr] at hgv; simp [hgv]
  | ok r => obtain ⟨v, acc⟩ := r; rw [hr] at hgv; simp [hgv, hff]

end Sheens.TrMatch
