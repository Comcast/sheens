import Sheens.Timers
import Sheens.Proofs.TimersInv

/-!
# Property C17 — timers

Over the transition system of `Sheens/Timers.lean`, for both implementations (`rep = false`:
mcrew, `Add` on a pending id is refused; `rep = true`: sio, it replaces the pending timer), for
**all** traces: every sequence of make/cancel requests (from the requester or from inside the
handler of a firing message — the handler's requests are ordinary actions that follow the firing),
every interleaving with the timer goroutines' steps, every advance of the clock.

Real time (`time.NewTimer` not firing early, the scheduler eventually running a due goroutine) is
trusted; "never early" is proved against the logical clock.
-/

namespace Sheens.C17

open Timers

def Reachable (rep : Bool) (s : St) : Prop := ∃ tr, run rep St.init tr = some s

/-- every reachable state satisfies the inductive invariant of `Sheens/Proofs/TimersInv.lean` -/
theorem Reachable.inv {rep : Bool} {s : St} (h : Reachable rep s) : Inv s :=
  h.elim fun _ => Inv.init.run

/-- An accepted timer fires at most once. -/
theorem fires_at_most_once (rep : Bool) (s : St) (h : Reachable rep s) : firedOnce s = true :=
  h.inv.firedOnce

/-- Never before its due time. -/
theorem never_early (rep : Bool) (s : St) (h : Reachable rep s) : neverEarly s = true :=
  h.inv.neverEarly

/-- A timer whose cancellation succeeded (or that was replaced) never fires. -/
theorem never_after_cancel (rep : Bool) (s : St) (h : Reachable rep s) : neverBoth s = true :=
  h.inv.neverBoth

/-- The timers reported as pending are exactly those accepted and not yet fired or cancelled. -/
theorem table_is_pending (rep : Bool) (s : St) (h : Reachable rep s) : tableIsPending s = true :=
  h.inv.tableIsPending

/-- Every pending timer has its goroutine parked (so it can still fire or be cancelled), and ids in
    the table are distinct. -/
theorem table_live (rep : Bool) (s : St) (h : Reachable rep s) :
    tableLive s = true ∧ tableIdsDistinct s = true :=
  ⟨h.inv.tableLive, h.inv.tableIdsDistinct⟩

/-- A timer's id is free for reuse from the moment it fires: right after the firing step the id is
    not in the table, so making a timer under it is accepted. -/
theorem id_free_after_fire (rep : Bool) (s s' : St) (g : Gen) (h : Reachable rep s)
    (hs : step rep s (.due g) = some s')
    (hf : g ∈ s'.fired.map (·.1)) (hn : g ∉ s.fired.map (·.1)) :
    ∃ p, procOf g s.procs = some p ∧ lookupT p.id s'.table = none ∧
      ∀ d, (step rep s' (.add p.id d)).isSome = true := by
  have _ := h   -- reachability is not needed for this one
  obtain ⟨p, hp, _, _, ⟨hl, e⟩ | ⟨_, e⟩⟩ := step_due hs
  · subst e
    have hl' : lookupT p.id (fireSt g p s).table = none := lookupT_eraseT_self
    exact ⟨p, hp, hl', fun d => congrArg Option.isSome (step_add_none hl')⟩
  · subst e
    exact absurd hf hn

/-- A timer made under any id (re-created by a handler or not) is in the table under that id, hence
    cancellable, until it fires or is cancelled. -/
theorem accepted_is_cancellable (rep : Bool) (s s' : St) (id : Tid) (d : Nat)
    (hs : step rep s (.add id d) = some s') :
    lookupT id s'.table = some s.nextGen ∧ (step rep s' (.rem id)).isSome = true := by
  have key : ∀ s0 : St, lookupT id (freshSt id d s0).table = some s0.nextGen ∧
      (step rep (freshSt id d s0) (.rem id)).isSome = true := fun s0 =>
    have hl : lookupT id (freshSt id d s0).table = some s0.nextGen := if_pos rfl
    ⟨hl, congrArg Option.isSome (step_rem_some hl)⟩
  rcases step_add hs with ⟨_, rfl⟩ | ⟨old, _, _, rfl⟩
  · exact key s
  · exact key (remSt id old s)

/-- If not cancelled it fires once due: a pending timer's goroutine is parked, and as soon as the
    clock has reached the due time its due step is enabled and fires it. -/
theorem pending_fires_when_due (rep : Bool) (s : St) (g : Gen) (h : Reachable rep s)
    (hp : g ∈ pendingGens s) :
    ∃ p, procOf g s.procs = some p ∧ p.phase = .waiting ∧
      (p.due ≤ s.now → ∃ s', step rep s (.due g) = some s' ∧ g ∈ s'.fired.map (·.1)) := by
  have hi := h.inv
  obtain ⟨id, hm⟩ := mem_pendingGens.mp hp
  obtain ⟨p, hpo, hpi, hpw⟩ := hi.live id g hm
  exact ⟨p, hpo, hpw, fun hd => ⟨fireSt g p s,
    step_due_fire hpo hpw hd (hpi ▸ lookupT_of_mem hi.ids hm), List.mem_cons_self⟩⟩

/-- A cancelled (or superseded) timer's goroutine never fires it: its due step, if taken, only
    retires the goroutine. -/
theorem cancelled_due_is_silent (rep : Bool) (s s' : St) (g : Gen) (h : Reachable rep s)
    (hc : g ∈ s.cancelled) (hs : step rep s (.due g) = some s') : s'.fired = s.fired := by
  obtain ⟨p, _, _, _, ⟨hl, _⟩ | ⟨_, e⟩⟩ := step_due hs
  · exact absurd hc (h.inv.tabNC p.id g (lookupT_some_mem hl))
  · subst e; rfl

/-- Restart (sio): re-arming the published table keeps the pending set and every due time, and the
    restarted service satisfies the same invariants. -/
theorem restart_resumes (s : St) (h : Reachable true s) :
    pendingGens (restart s) = pendingGens s ∧
    (∀ g ∈ pendingGens s, ∀ p, procOf g s.procs = some p →
        ∃ p', procOf g (restart s).procs = some p' ∧ p'.due = p.due ∧ p'.id = p.id ∧ p'.phase = .waiting) ∧
    tableLive (restart s) = true ∧ tableIsPending (restart s) = true := by
  have hi := h.inv
  refine ⟨rfl, fun g hg p hp => ?_, hi.restart.tableLive, hi.restart.tableIsPending⟩
  obtain ⟨id, hm⟩ := mem_pendingGens.mp hg
  exact ⟨_, procOf_restart hi.live hm hp, rfl, rfl, rfl⟩

end Sheens.C17
