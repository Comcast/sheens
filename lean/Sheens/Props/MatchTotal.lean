import Sheens.Oracle
import Sheens.Proofs.Fuel
import Sheens.Proofs.OracleSound
import Sheens.Proofs.Terminates

/-!
# The matcher terminates on every input (part of C07), fuel is monotone, the oracle is sound

`matchF` takes a fuel argument because `Matcher.match` re-enters itself on a *bound value*, which
is not structurally smaller than the pattern.  Since the repair "a bound value that looks like a
variable is compared as a constant" (`matchBound`), every re-entry on a bound value is followed by a
descent into a strictly smaller part of the message, so the recursion is bounded for **all**
patterns, messages and bindings — no well-formedness hypothesis.
-/

namespace Sheens.MatchTotal

/-- More fuel never changes a result that is not `diverge`. -/
theorem matchF_mono (n : Nat) (p f : V) (bs : Bs) (r : MRes)
    (h : matchF n p f bs = r) (hr : r ≠ .diverge) : matchF (n+1) p f bs = r := by
  subst h
  exact (Sheens.Total.mono_all n).matchF hr

/-- The matcher terminates: for every pattern, message and bindings there is a fuel bound from which
    on the result is not `diverge` (in Go: the recursion is bounded, no stack overflow). -/
theorem matchF_terminates (p f : V) (bs : Bs) : ∃ N, ∀ n, N ≤ n → matchF n p f bs ≠ .diverge :=
  let ⟨N, hN⟩ := Sheens.Total.termMsg_all f p bs
  ⟨N, fun _ hn => Sheens.Total.matchF_le hn hN ▸ hN⟩

/-- The executable oracle used on the implementation's outputs is sound for `Sat`. -/
theorem satB_sound (n : Nat) (bs₀ r : Bs) (p f : V) (h : satB n bs₀ r p f = true) : Sat bs₀ r p f :=
  (Sheens.Total.oracle_all bs₀ r n).sat h

end Sheens.MatchTotal
