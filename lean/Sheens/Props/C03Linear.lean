import Sheens.Props.C02Exact
import Sheens.Proofs.KeyPermLemmas

/-!
# Property C03, order independence — a positive theorem on linear plain patterns

The full statement (`C03.order_independent_full`) is false of the code (three known findings, all
of which need a variable used at several places, an optional variable, or an invalid pattern).
On the fragment where `C02.match_exact` applies — every non-anonymous variable occurs once, no
optional or inequality-named variable, nothing pre-bound — the *set of returned binding sets* does
not depend on the order in which the keys of the pattern's maps are visited: for every hereditary
re-ordering `p'` of the keys of `p`, the same assignments are returned (up to `lookup`).

Go visits the keys of a map in an unspecified order; the model visits an association list front to
back; `KeyPerm p p'` says that `p'` is `p` with the entries of every map, at every depth, listed in
some other order (arrays keep their order: they are slices).
-/

namespace Sheens.C03

mutual
/-- `p'` is `p` with the entries of its maps re-ordered, at every depth -/
inductive KeyPerm : V → V → Prop
  | refl (v : V) : KeyPerm v v
  | arr {xs ys : List V} : KeyPermL xs ys → KeyPerm (.arr xs) (.arr ys)
  | obj {kvs mid kvs' : List (String × V)} : KeyPermKvs kvs mid → mid.Perm kvs' → KeyPerm (.obj kvs) (.obj kvs')
inductive KeyPermL : List V → List V → Prop
  | nil : KeyPermL [] []
  | cons {x y : V} {xs ys : List V} : KeyPerm x y → KeyPermL xs ys → KeyPermL (x :: xs) (y :: ys)
inductive KeyPermKvs : List (String × V) → List (String × V) → Prop
  | nil : KeyPermKvs [] []
  | cons {k : String} {x y : V} {xs ys : List (String × V)} :
      KeyPerm x y → KeyPermKvs xs ys → KeyPermKvs ((k, x) :: xs) ((k, y) :: ys)
end

open Sheens.KeyPermLemmas in
/-- A hereditary re-ordering has the same embeddings, is as plain and as valid (`patOK`), and has the
    same variables (`Sheens/Proofs/KeyPermLemmas.lean`): simultaneous induction on the three
    relations. -/
theorem KeyPerm.inv (bs₀ σ : Bs) {p p' : V} (hk : KeyPerm p p') : Inv bs₀ σ p p' :=
  KeyPerm.rec
    (motive_1 := fun a b _ => Inv bs₀ σ a b)
    (motive_2 := fun xs ys _ => RelL (Inv bs₀ σ) xs ys)
    (motive_3 := fun xs ys _ => RelK (Inv bs₀ σ) xs ys)
    (fun _ => Inv.refl)
    (fun _ ih => Inv.arr ih)
    (fun _ hp ih => Inv.obj ih hp)
    RelL.nil
    (fun _ _ ih1 ih2 => RelL.cons ih1 ih2)
    RelK.nil
    (fun _ _ ih1 ih2 => RelK.cons ih1 ih2)
    hk

open Sheens.C02 in
/-- On linear plain patterns the returned assignments are the same for every order of the keys. -/
theorem order_independent_linear (p p' f : V) (σ : Bs)
    (hk : KeyPerm p p')
    (hp : p.plainPat = true) (hf : f.good = true) (hs : setLike f = true)
    (hl : Linear p) (hv : PlainVars p) (hσ : GoodBs σ)
    (hdom : ∀ k, lookup k σ ≠ none → k ∈ varsOf p ∧ isAnon k = false) :
    (∃ n rs, matchF n p f [] = .ok rs ∧ ∃ r ∈ rs, ∀ k, lookup k r = lookup k σ) ↔
    (∃ n rs, matchF n p' f [] = .ok rs ∧ ∃ r ∈ rs, ∀ k, lookup k r = lookup k σ) := by
  -- `match_exact` on both sides: the hypotheses carry over to `p'`, the embeddings are the same
  have hi := hk.inv [] σ
  rw [← match_exact p f σ hp hf hs hl hv hσ hdom,
    ← match_exact p' f σ (hi.plain hp) hf hs (Sheens.Exact.Lin.perm hi.vars hl)
      (fun v hm => hv v (hi.vars.mem_iff.mpr hm)) hσ
      (fun k hk => ⟨hi.vars.mem_iff.mp (hdom k hk).1, (hdom k hk).2⟩)]
  exact hi.emb.2 f

/-- non-vacuity: two orders of a two-key pattern with a nested map -/
example : KeyPerm (.obj [("a", .str "?x"), ("b", .obj [("c", .str "?y"), ("d", .num 1)])])
                  (.obj [("b", .obj [("d", .num 1), ("c", .str "?y")]), ("a", .str "?x")]) :=
  KeyPerm.obj
    (KeyPermKvs.cons (KeyPerm.refl _)
      (KeyPermKvs.cons
        (KeyPerm.obj (KeyPermKvs.cons (KeyPerm.refl _) (KeyPermKvs.cons (KeyPerm.refl _) KeyPermKvs.nil))
          (List.Perm.swap _ _ _))
        KeyPermKvs.nil))
    (List.Perm.swap _ _ _)

end Sheens.C03

#print axioms Sheens.C03.order_independent_linear
